import XcpProofs.Bytes
import XcpModel.Libfs
/-! `queue_file_range`: the block partition covers exactly `[start, start+len)`. -/
namespace Xcp

theorem nblocks_spec (len b : Nat) (hb : 0 < b) (k : Nat) : k < nblocks len b ↔ k * b < len := by
  unfold nblocks
  by_cases hr : len % b > 0
  · rw [if_pos hr, Nat.lt_succ_iff, Nat.le_div_iff_mul_le hb]
    exact ⟨fun h => Nat.lt_of_le_of_ne h fun e => absurd (e ▸ Nat.mul_mod_left k b) (Nat.ne_of_gt hr),
      Nat.le_of_lt⟩
  · have hd : len / b * b = len :=
      Nat.div_mul_cancel (Nat.dvd_of_mod_eq_zero (Nat.eq_zero_of_not_pos hr))
    rw [if_neg hr, Nat.add_zero, ← Nat.mul_lt_mul_right hb, hd]

theorem mem_blocks {start len b : Nat} (hb : 0 < b) {j : Nat × Nat} :
    j ∈ blocks start len b ↔ ∃ k, k * b < len ∧ j = (start + k * b, min (len - k * b) b) := by
  simp only [blocks, List.mem_map, List.mem_range, nblocks_spec len b hb, eq_comm]

theorem block_end_le {len b k : Nat} (start : Nat) (hk : k * b < len) :
    start + k * b + min (len - k * b) b ≤ start + len := by
  rw [Nat.add_assoc]
  exact Nat.add_le_add_left
    (Nat.le_trans (Nat.add_le_add_left (Nat.min_le_left ..) _) (Nat.le_of_eq (Nat.add_sub_cancel' (Nat.le_of_lt hk)))) _

theorem blocks_cover (start len b : Nat) (hb : 0 < b) (i : Nat) :
    covered (blocks start len b) i ↔ start ≤ i ∧ i < start + len := by
  constructor
  · rintro ⟨j, hj, h1, h2⟩
    obtain ⟨k, hk, rfl⟩ := (mem_blocks hb).mp hj
    exact ⟨Nat.le_trans (Nat.le_add_right ..) h1, Nat.lt_of_lt_of_le h2 (block_end_le start hk)⟩
  · rintro ⟨h1, h2⟩
    obtain ⟨d, rfl⟩ := Nat.exists_eq_add_of_le h1
    have hd : d < len := Nat.lt_of_add_lt_add_left h2
    have hk : d / b * b ≤ d := Nat.div_mul_le_self d b
    refine ⟨_, (mem_blocks hb).mpr ⟨d / b, Nat.lt_of_le_of_lt hk hd, rfl⟩, Nat.add_le_add_left hk _, ?_⟩
    rw [Nat.add_assoc, ← Nat.add_min_add_left, Nat.add_sub_cancel' (Nat.le_of_lt (Nat.lt_of_le_of_lt hk hd))]
    exact Nat.add_lt_add_left (Nat.lt_min.mpr ⟨hd, Nat.lt_div_mul_add hb⟩) _

theorem blocks_in_bounds (start len b : Nat) (hb : 0 < b) : ∀ j ∈ blocks start len b, j.1 + j.2 ≤ start + len := by
  intro j hj
  obtain ⟨k, hk, rfl⟩ := (mem_blocks hb).mp hj
  exact block_end_le start hk

theorem nblocks_single (len b : Nat) (h : len ≤ b) (hl : 0 < len) : nblocks len b = 1 := by
  have hb : 0 < b := by omega
  have h0 := nblocks_spec len b hb 0
  have h1 := nblocks_spec len b hb 1
  simp at h0 h1
  omega

/-- parblock whole-file path, full counts, ANY order or duplication of the jobs: destination = source -/
theorem parblock_whole_exact (src : List Byte) (b : Nat) (hb : 0 < b) (l : List (Nat × Nat))
    (hl : ∀ i, covered l i ↔ covered (blocks 0 src.length b) i)
    (hin : ∀ j ∈ l, j.1 + j.2 ≤ src.length) :
    runJobs src (List.replicate src.length 0) l = src := by
  have _ := hin
  apply runJobs_exact src l
  intro i hi hc
  exact absurd ((hl i).mpr ((blocks_cover 0 src.length b hb i).mpr ⟨Nat.zero_le _, (Nat.zero_add _).symm ▸ hi⟩)) hc

end Xcp
