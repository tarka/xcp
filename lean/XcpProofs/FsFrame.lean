import XcpProofs.FsCalls
/-! # Frame and preservation lemmas over the namespace model (C02, C03, C08)

What each mutating call and each `execOp` may change: creating calls alter no existing entry (`Preserved`), and an
operation on a plain target changes only what is at or below the target and the entry lists of the target's
ancestor directories (`FrameAt`, `AncDir`); and what a successful operation leaves at a plain target, as `stat`/`lstat`
see it.

`FrameAt r r' ns` speaks of nodes (`getAt`) at the places unrelated to `ns`; `AncKept` (each proper ancestor unchanged
or still a directory) implies `AncDir` (directories above stay directories), which is what `create_dir_all` keeps. -/
namespace Xcp

theorem make_preserved {f f' : Fs} {p : RPath} {v : Node} (h : f.make p v = .ok f') :
    Preserved f.root f'.root := by
  obtain ⟨par, n, hr, rfl⟩ := make_ok h
  exact setAt_missing_preserved _ _ _ (resolve_missing _ _ _ _ _ hr)

theorem mkdirAll_preserved (fs fs' : Fs) (p : RPath) (h : fs.mkdirAll p = .ok fs') :
    Preserved fs.root fs'.root :=
  mkdirAll_ind (fun f f' => Preserved f.root f'.root) (fun _ => Preserved.refl _) (fun _ _ _ => Preserved.trans)
    (fun _ _ p h => make_preserved (mkdir_eq _ p ▸ h)) h

/-- `File::create` on a path at which `lstat` finds nothing can only create -/
theorem createFile_preserved (fs fs' : Fs) (p : RPath) (c : Nat) (hf : fs.lexists p = false)
    (h : fs.createFile p c = .ok fs') : Preserved fs.root fs'.root := by
  have hfl := resolve_follow_of_lexists fs p hf
  rcases createFile_ok h with ⟨q, k, hr, hg, _⟩ | ⟨q, k, d, hr, hg, _⟩ | ⟨par, n, hr, rfl⟩
  · rw [found_none_of_lexists fs p hf q (hfl ▸ hr)] at hg; cases hg
  · rw [found_none_of_lexists fs p hf q (hfl ▸ hr)] at hg; cases hg
  · exact setAt_missing_preserved _ _ _ (resolve_missing _ _ _ _ _ hr)

/-- one operation executed on a target that does not exist alters no existing entry -/
theorem execOp_fresh_preserved (fs fs' : Fs) (c : Cfg) (op : Op)
    (hf : ∀ t, opTarget op = some t → fs.lexists t = false) (h : execOp fs c op = some fs') :
    Preserved fs.root fs'.root := by
  cases op with
  | fail => cases h
  | mkdir t => exact mkdirAll_preserved _ _ _ (execOp_mkdir_some.1 h)
  | link tx t => exact make_preserved (symlink_eq _ tx t ▸ execOp_link_some.1 h)
  | copy s t =>
    obtain ⟨k, _, _, h⟩ := execOp_copy_some.1 h
    exact createFile_preserved _ _ _ _ (hf t rfl) h
  | special s t =>
    obtain ⟨k, d, _, ⟨_, h⟩ | ⟨he, _⟩⟩ := execOp_special_some.1 h
    · exact make_preserved (mknod_eq _ t k d ▸ h)
    · rw [exists_false_of_lexists fs t (hf t rfl)] at he; cases he

/-- a run in which every operation finds its target absent alters no existing entry -/
theorem freshRun_preserved (c : Cfg) : ∀ (ops : List Op) (fs : Fs), FreshRun fs c ops →
    Preserved fs.root (execOps fs c ops).fs.root := by
  intro ops
  induction ops with
  | nil => intro fs _; exact Preserved.refl _
  | cons op r ih =>
    intro fs h
    obtain ⟨h1, h2⟩ := h
    simp only [execOps]
    cases hx : execOp fs c op with
    | none => exact Preserved.refl _
    | some fs' =>
      rw [hx] at h2
      exact Preserved.trans (execOp_fresh_preserved _ _ c op h1 hx) (ih fs' h2)

/-- nothing changed except at/below `ns` and at its ancestors -/
def FrameAt (r r' : Node) (ns : List Name) : Prop :=
  ∀ q, ¬ ns <+: q → ¬ q <+: ns → r'.getAt q = r.getAt q

/-- every proper ancestor of `ns` is untouched, or was and still is a directory -/
def AncKept (r r' : Node) (ns : List Name) : Prop :=
  ∀ q, q <+: ns → q ≠ ns → DirOrSame (r.getAt q) (r'.getAt q)

/-- every proper ancestor of `ns` that was a directory still is one -/
def AncDir (r r' : Node) (ns : List Name) : Prop :=
  ∀ q es, q <+: ns → q ≠ ns → r.getAt q = some (.dir es) → ∃ es', r'.getAt q = some (.dir es')

theorem FrameAt.refl (r : Node) (ns : List Name) : FrameAt r r ns := fun _ _ _ => rfl

theorem FrameAt.trans {a b c : Node} {ns : List Name} (h1 : FrameAt a b ns) (h2 : FrameAt b c ns) :
    FrameAt a c ns := fun q hq1 hq2 => (h2 q hq1 hq2).trans (h1 q hq1 hq2)

theorem AncKept.refl (r : Node) (ns : List Name) : AncKept r r ns := fun _ _ _ => DirOrSame.refl _

theorem AncKept.trans {a b c : Node} {ns : List Name} (h1 : AncKept a b ns) (h2 : AncKept b c ns) :
    AncKept a c ns := fun q hq1 hq2 => DirOrSame.trans (h1 q hq1 hq2) (h2 q hq1 hq2)

theorem AncKept.ancDir {r r' : Node} {ns : List Name} (h : AncKept r r' ns) : AncDir r r' ns := by
  intro q es hq hne hd
  rcases h q hq hne with h | ⟨_, es', _, hb⟩
  · exact ⟨es, by rw [h, hd]⟩
  · exact ⟨es', hb⟩

theorem AncKept.noLinkAbove {r r' : Node} {ns : List Name} (h : AncKept r r' ns) (hl : NoLinkAbove r ns) :
    NoLinkAbove r' ns :=
  fun p hp hne => (h p hp hne).notLink (hl p hp hne)

theorem Preserved.ancDir {r r' : Node} (h : Preserved r r') (ns : List Name) : AncDir r r' ns := by
  intro q es _ _ hd
  have := h q
  rw [hd] at this
  exact this

theorem setAt_frameAt (r : Node) (ns : List Name) (v : Node) : FrameAt r (r.setAt ns v) ns :=
  fun q h1 h2 => getAt_setAt_unrelated r ns q v h1 h2

theorem setAt_ancKept (r : Node) (ns : List Name) (v : Node) : AncKept r (r.setAt ns v) ns :=
  fun q h1 h2 => getAt_setAt_ancestor r ns q v h1 h2

theorem delAt_frameAt (r : Node) (ns : List Name) : FrameAt r (r.delAt ns) ns :=
  fun q h1 h2 => getAt_delAt_unrelated r ns q h1 h2

theorem delAt_ancKept (r : Node) (ns : List Name) : AncKept r (r.delAt ns) ns :=
  fun q h1 h2 => getAt_delAt_ancestor r ns q h1 h2

theorem mkdir_plain_step (fs fs' : Fs) (ns p : List Name) (hp : p <+: ns) (hl : NoLinkUpto fs.root ns)
    (h : fs.mkdir (plainPath p) = .ok fs') : FrameAt fs.root fs'.root ns ∧ NoLinkUpto fs'.root ns := by
  obtain ⟨par, n, hpn, hr, rfl⟩ := make_plain (hl.prefix hp).above (mkdir_eq _ _ ▸ h)
  have hnone : fs.root.getAt p = none := hpn ▸ resolve_missing _ _ _ _ _ hr
  -- at and below `p` there was nothing, and now there is at most an empty directory
  have below : ∀ s, (fs.root.setAt p (.dir [])).getAt (p ++ s) = none ∨
      (s = [] ∧ (fs.root.setAt p (.dir [])).getAt (p ++ s) = some (.dir [])) := by
    intro s
    rcases setAt_eff_or_noop fs.root p (.dir []) with he | he
    · rw [he s]
      cases s with
      | nil => exact .inr ⟨rfl, rfl⟩
      | cons a s' => exact .inl rfl
    · rw [he]
      exact .inl (getAt_append_none _ _ _ hnone)
  refine ⟨?_, ?_⟩
  · intro q h1 h2
    show (fs.root.setAt p (.dir [])).getAt q = fs.root.getAt q
    rcases prefix_cases p q with ⟨s, rfl⟩ | ⟨h3, _⟩ | ⟨h3, h4⟩
    · rcases below s with hb | ⟨rfl, _⟩
      · rw [hb, getAt_append_none _ _ _ hnone]
      · exact absurd (by rw [List.append_nil]; exact hp) h2
    · exact absurd (List.IsPrefix.trans h3 hp) h2
    · exact getAt_setAt_unrelated _ _ _ _ h3 h4
  · intro q hq tg
    show (fs.root.setAt p (.dir [])).getAt q ≠ some (.link tg)
    rcases prefix_cases p q with ⟨s, rfl⟩ | ⟨h3, h4⟩ | ⟨h3, h4⟩
    · rcases below s with hb | ⟨_, hb⟩ <;> rw [hb] <;> exact fun hh => by cases hh
    · exact (getAt_setAt_ancestor _ _ _ _ h3 h4).notLink (hl q hq) tg
    · rw [getAt_setAt_unrelated _ _ _ _ h3 h4]
      exact hl q hq tg

theorem mkdirAll_plain_prefix {fs fs' : Fs} {ns p : List Name} (hp : p <+: ns) (hl : NoLinkUpto fs.root ns)
    (h : fs.mkdirAll (plainPath p) = .ok fs') : FrameAt fs.root fs'.root ns ∧ NoLinkUpto fs'.root ns :=
  mkdirAll_plain_ind ns (fun f f' => NoLinkUpto f.root ns → FrameAt f.root f'.root ns ∧ NoLinkUpto f'.root ns)
    (fun _ hl => ⟨FrameAt.refl _ _, hl⟩)
    (fun _ _ _ h1 h2 hl => ⟨(h1 hl).1.trans (h2 (h1 hl).2).1, (h2 (h1 hl).2).2⟩)
    (fun f f' q hq h hl => mkdir_plain_step f f' ns q hq hl h) p fs fs' hp h hl

/-- an operation on a plain target changes only what is at or below the target and the entry lists of the
target's ancestor directories, which stay directories -/
theorem execOp_plain (fs fs' : Fs) (c : Cfg) (op : Op) (ns : List Name)
    (ht : opTarget op = some (plainPath ns)) (hl : NoLinkUpto fs.root ns) (h : execOp fs c op = some fs') :
    FrameAt fs.root fs'.root ns ∧ AncDir fs.root fs'.root ns := by
  have hset : ∀ v, FrameAt fs.root (fs.root.setAt ns v) ns ∧ AncDir fs.root (fs.root.setAt ns v) ns :=
    fun v => ⟨setAt_frameAt _ _ _, (setAt_ancKept _ _ _).ancDir⟩
  cases op with
  | fail => cases h
  | mkdir t =>
    obtain rfl : t = plainPath ns := Option.some.inj ht
    have h' := execOp_mkdir_some.1 h
    exact ⟨(mkdirAll_plain_prefix (List.prefix_refl ns) hl h').1, (mkdirAll_preserved _ _ _ h').ancDir _⟩
  | link tx t =>
    obtain rfl : t = plainPath ns := Option.some.inj ht
    obtain ⟨_, _, _, _, rfl⟩ := make_plain hl.above (symlink_eq _ tx _ ▸ execOp_link_some.1 h)
    exact hset _
  | copy s t =>
    obtain rfl : t = plainPath ns := Option.some.inj ht
    obtain ⟨k, _, _, h⟩ := execOp_copy_some.1 h
    rcases createFile_plain hl h with ⟨_, _, rfl⟩ | ⟨_, _, _, rfl⟩ | ⟨_, _, _, _, rfl⟩
    · exact hset _
    · exact ⟨FrameAt.refl _ _, (AncKept.refl _ _).ancDir⟩
    · exact hset _
  | special s t =>
    obtain rfl : t = plainPath ns := Option.some.inj ht
    obtain ⟨k, d, _, ⟨_, h⟩ | ⟨_, _, _, fs1, h1, h⟩⟩ := execOp_special_some.1 h
    · obtain ⟨_, _, _, _, rfl⟩ := make_plain hl.above (mknod_eq _ _ k d ▸ h)
      exact hset _
    · obtain ⟨_, _, _, _, rfl⟩ := unlink_plain hl.above h1
      have hl1 : NoLinkAbove (fs.root.delAt ns) ns := (delAt_ancKept _ _).noLinkAbove hl.above
      obtain ⟨_, _, _, _, rfl⟩ := make_plain hl1 (mknod_eq _ _ k d ▸ h)
      exact ⟨FrameAt.trans (delAt_frameAt _ _) (setAt_frameAt _ _ _),
        (AncKept.trans (delAt_ancKept _ _) (setAt_ancKept _ _ _)).ancDir⟩

theorem make_plain_getAt {fs fs' : Fs} {ns : List Name} {v : Node} (hroot : fs.root.isDir = true)
    (hl : NoLinkAbove fs.root ns) (h : fs.make (plainPath ns) v = .ok fs') :
    fs' = { fs with root := fs.root.setAt ns v } ∧ (fs.root.setAt ns v).getAt ns = some v := by
  obtain ⟨par, n, rfl, hr, rfl⟩ := make_plain hl h
  exact ⟨rfl, getAt_setAt_eff _ _ v (parentDir_of_missing fs _ false par n hroot rfl hr)⟩

theorem make_plain_lstat {fs fs' : Fs} {ns : List Name} {v : Node} (hroot : fs.root.isDir = true)
    (hlen : ns.length + (if v.isDir then 1 else 0) ≤ 256) (hl : NoLinkAbove fs.root ns)
    (h : fs.make (plainPath ns) v = .ok fs') :
    fs'.lstat (plainPath ns) = some (ns, v) := by
  obtain ⟨rfl, hg⟩ := make_plain_getAt hroot hl h
  exact lstat_of_getAt _ ns v hlen hg

theorem make_plain_stat {fs fs' : Fs} {ns : List Name} {v : Node} (hroot : fs.root.isDir = true)
    (hlen : ns.length + (if v.isDir then 1 else 0) ≤ 256) (hl : NoLinkAbove fs.root ns) (hv : v.isLink = false)
    (h : fs.make (plainPath ns) v = .ok fs') : fs'.stat (plainPath ns) = some (ns, v) := by
  obtain ⟨rfl, hg⟩ := make_plain_getAt hroot hl h
  exact stat_of_getAt _ ns v hlen hg hv

theorem isDir_of_stat {fs : Fs} {p : RPath} {c : List Name} {es : Entries} (h : fs.stat p = some (c, .dir es)) :
    fs.isDir p = true := by
  simp [Fs.isDir, h, Node.isDir]

theorem mkdirAll_plain_isDir (fs fs' : Fs) (ns : List Name) (hroot : fs.root.isDir = true)
    (hlen : ns.length < 256) (hl : NoLinkUpto fs.root ns) (h : fs.mkdirAll (plainPath ns) = .ok fs') :
    fs'.isDir (plainPath ns) = true := by
  rcases List.eq_nil_or_concat ns with rfl | ⟨par, n, rfl⟩
  · cases h
    cases hr : fs.root with
    | dir es => exact isDir_of_stat (stat_of_getAt fs [] (.dir es) (le_256_of_lt (by decide)) (by rw [hr]; rfl) rfl)
    | _ => rw [hr] at hroot; cases hroot
  · rw [List.concat_eq_append] at h hl hlen ⊢
    obtain ⟨f1, h1, h2⟩ := mkdirAll_plain_last h
    -- the state before the last step still has a directory as its root and no link on the path
    have inv : f1.root.isDir = true ∧ NoLinkUpto f1.root (par ++ [n]) := by
      rcases h1 with rfl | h1
      · exact ⟨hroot, hl⟩
      · exact ⟨(mkdirAll_preserved _ _ _ h1).isDir hroot,
          (mkdirAll_plain_prefix (List.prefix_append par [n]) hl h1).2⟩
    rcases tryMk_ok h2 with h2 | ⟨rfl, hd⟩
    · exact isDir_of_stat (make_plain_stat inv.1 (Nat.succ_le_of_lt hlen) inv.2.above rfl (mkdir_eq _ _ ▸ h2))
    · exact hd

/-- `File::create` + copy on a plain path that is not an existing special file: a regular file with the
content written -/
theorem createFile_plain_stat (fs fs' : Fs) (ns : List Name) (c : Nat) (hroot : fs.root.isDir = true)
    (hlen : ns.length ≤ 256) (hl : NoLinkUpto fs.root ns)
    (hsp : ∀ k d, fs.root.getAt ns ≠ some (.special k d))
    (h : fs.createFile (plainPath ns) c = .ok fs') : fs'.stat (plainPath ns) = some (ns, .file c) := by
  have key : ∀ (hg : (fs.root.setAt ns (.file c)).getAt ns = some (.file c)),
      ({ fs with root := fs.root.setAt ns (.file c) } : Fs).stat (plainPath ns) = some (ns, .file c) :=
    fun hg => stat_of_getAt _ ns _ hlen hg rfl
  rcases createFile_plain hl h with ⟨k, hk, rfl⟩ | ⟨k, d, hk, _⟩ | ⟨par, n, hpn, hr, rfl⟩
  · exact key (getAt_setAt_exists _ _ _ _ hk)
  · exact absurd hk (hsp k d)
  · subst hpn
    exact key (getAt_setAt_eff _ _ _ (parentDir_of_missing fs _ true par n hroot rfl hr))

theorem execOp_copy_plain (fs fs' : Fs) (c : Cfg) (s t : RPath) (ns : List Name) (ht : t = plainPath ns)
    (hroot : fs.root.isDir = true) (hlen : ns.length ≤ 256) (hl : NoLinkUpto fs.root ns)
    (hsp : ∀ k d, fs.root.getAt ns ≠ some (.special k d))
    (h : execOp fs c (.copy s t) = some fs') :
    fs'.contentOf t = fs.contentOf s ∧ fs.contentOf s ≠ none := by
  subst ht
  obtain ⟨k, hk, _, h⟩ := execOp_copy_some.1 h
  have hs := createFile_plain_stat fs fs' ns k hroot hlen hl hsp h
  rw [hk]
  exact ⟨by simp [Fs.contentOf, hs], by simp⟩

theorem execOp_link_plain (fs fs' : Fs) (c : Cfg) (text t : RPath) (ns : List Name) (ht : t = plainPath ns)
    (hroot : fs.root.isDir = true) (hlen : ns.length ≤ 256) (hl : NoLinkAbove fs.root ns)
    (h : execOp fs c (.link text t) = some fs') : fs'.lstat t = some (ns, .link text) := by
  subst ht
  exact make_plain_lstat hroot hlen hl (symlink_eq _ text _ ▸ execOp_link_some.1 h)

theorem execOp_mkdir_plain (fs fs' : Fs) (c : Cfg) (t : RPath) (ns : List Name) (ht : t = plainPath ns)
    (hroot : fs.root.isDir = true) (hlen : ns.length < 256) (hl : NoLinkUpto fs.root ns)
    (h : execOp fs c (.mkdir t) = some fs') : fs'.isDir t = true := by
  subst ht
  exact mkdirAll_plain_isDir fs fs' ns hroot hlen hl (execOp_mkdir_some.1 h)

theorem execOp_special_plain (fs fs' : Fs) (c : Cfg) (s t : RPath) (ns cs : List Name) (k : FileKind) (rdev : Nat)
    (ht : t = plainPath ns) (hroot : fs.root.isDir = true) (hlen : ns.length ≤ 256) (hl : NoLinkAbove fs.root ns)
    (hs : fs.stat s = some (cs, .special k rdev))
    (h : execOp fs c (.special s t) = some fs') : fs'.lstat t = some (ns, .special k rdev) := by
  subst ht
  obtain ⟨k', d', hkd, h⟩ := execOp_special_some.1 h
  obtain ⟨rfl, rfl⟩ : k = k' ∧ rdev = d' := by simpa [Fs.specialOf, hs] using hkd
  rcases h with ⟨_, h⟩ | ⟨_, _, _, fs1, h1, h⟩
  · exact make_plain_lstat hroot hlen hl (mknod_eq _ _ k rdev ▸ h)
  · obtain ⟨_, _, _, _, rfl⟩ := unlink_plain hl h1
    exact make_plain_lstat (delAt_isDir _ _ hroot) hlen ((delAt_ancKept _ _).noLinkAbove hl)
      (mknod_eq _ _ k rdev ▸ h)

end Xcp
