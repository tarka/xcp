import XcpProofs.Loops
import XcpProofs.Blocks
import XcpProofs.Merge
/-! Composition of the loop, block-partition and extent-merge lemmas into the statements the property
files (C01, C05) quote: block jobs, and the whole parblock driver under any schedule. -/
namespace Xcp

/-- `JobsIn` asked only of the jobs that move something: a zero-length `copy_file_range` at a cursor beyond the
end of file leaves an empty job there, which `JobsIn` rejects and this does not -/
def JobsInPos (evs : List Ev) (len : Nat) : Prop := ∀ j ∈ jobsOf evs, 0 < j.2 → j.1 + j.2 ≤ len

theorem JobsIn.pos {evs : List Ev} {len : Nat} (h : JobsIn evs len) : JobsInPos evs len :=
  fun j hj _ => h j hj

theorem copyBytes_exact (src : Bytes) (k : Kern) (hs : KernSafe k src.length) (linux : Bool) (b fuel a r : Nat)
    (h : (copyBytes k linux b fuel a 0 src.length 0).stop = .ok r) :
    r = src.length ∧
    runJobs src (List.replicate src.length 0) (jobsOf (copyBytes k linux b fuel a 0 src.length 0).evs) = src := by
  obtain ⟨h0, h2, _⟩ := (copyBytes_post k src.length hs linux b fuel a 0 src.length 0 (Nat.zero_le _)).1 r h
  exact ⟨h0, runJobs_exact src _ fun i hi hc => absurd ((h2 i).mpr ⟨Nat.zero_le _, Nat.zero_add _ ▸ hi⟩) hc⟩

/-- a block job stops as its `copy_file_offset` does and moves the same bytes: the `Copied` it appends is no job -/
theorem blockJob_inner (k : Kern) (linux : Bool) (off bytes : Nat) :
    (blockJob k linux off bytes).stop =
      (if linux then copyFileOffset k (bytes + 1) 0 off bytes 0
        else copyFileOffsetFallback k (bytes + 1) 0 off bytes).stop ∧
    jobsOf (blockJob k linux off bytes).evs =
      jobsOf (if linux then copyFileOffset k (bytes + 1) 0 off bytes 0
        else copyFileOffsetFallback k (bytes + 1) 0 off bytes).evs := by
  unfold blockJob
  simp only []
  split
  · exact ⟨rfl, (jobsOf_append ..).trans (List.append_nil _)⟩
  · exact ⟨rfl, rfl⟩

theorem blockJob_linux_ok (k : Kern) (len : Nat) (hs : KernSafe k len) (hl : KernLive k len)
    (off bytes n : Nat) (ho : off ≤ len) (h : (blockJob k true off bytes).stop = .ok n) :
    off + n = min (off + bytes) len ∧
    ∀ i, covered (jobsOf (blockJob k true off bytes).evs) i ↔ off ≤ i ∧ i < min (off + bytes) len := by
  obtain ⟨hstop, hjobs⟩ := blockJob_inner k true off bytes
  obtain ⟨_, _, e3, e4⟩ :=
    (copyFileOffset_post k len hs hl (bytes + 1) 0 off bytes 0 (Nat.zero_le _)).1 n (hstop ▸ h) ho
  exact ⟨e3, hjobs ▸ e3 ▸ e4.2⟩

theorem blockJob_linux_no_spin (k : Kern) (len : Nat) (hs : KernSafe k len) (hl : KernLive k len)
    (off bytes : Nat) : (blockJob k true off bytes).stop ≠ .spin :=
  (blockJob_inner k true off bytes).1 ▸
    (copyFileOffset_post k len hs hl (bytes + 1) 0 off bytes 0 (Nat.zero_le _)).2 (by omega)

theorem blockJob_fallback_ok (k : Kern) (len : Nat) (hs : KernSafe k len)
    (off bytes n : Nat) (h : (blockJob k false off bytes).stop = .ok n) :
    n = bytes ∧ (0 < bytes → off + bytes ≤ len) ∧
    ∀ i, covered (jobsOf (blockJob k false off bytes).evs) i ↔ off ≤ i ∧ i < off + bytes := by
  obtain ⟨hstop, hjobs⟩ := blockJob_inner k false off bytes
  obtain ⟨e1, e2⟩ := (rangeUspace_post k len hs (bytes + 1) 0 off bytes 0 (Nat.zero_le _)).1 n (hstop ▸ h)
  exact ⟨e1, fun hb => e2.le_len (Nat.add_lt_add_left hb off), hjobs ▸ e2.2⟩

theorem covered_flatMap_blocks (b : Nat) (hb : 0 < b) (rs : List (Nat × Nat)) (i : Nat) :
    covered (rs.flatMap fun r => blocks r.1 r.2 b) i ↔ covered rs i := by
  constructor
  · rintro ⟨j, hj, hc⟩
    obtain ⟨r, hr, hjr⟩ := List.mem_flatMap.mp hj
    exact ⟨r, hr, (blocks_cover r.1 r.2 b hb i).mp ⟨j, hjr, hc⟩⟩
  · rintro ⟨r, hr, hc⟩
    obtain ⟨j, hj, hcj⟩ := (blocks_cover r.1 r.2 b hb i).mpr hc
    exact ⟨j, List.mem_flatMap.mpr ⟨r, hr, hj⟩, hcj⟩

/-- extents `[start, stop)` as `(offset, length)` ranges -/
theorem covered_extent_ranges (es : List Extent) (i : Nat) :
    covered (es.map fun e => (e.start, e.stop - e.start)) i ↔ covers es i := by
  constructor
  · rintro ⟨j, hj, h1, h2⟩
    obtain ⟨e, he, rfl⟩ := List.mem_map.mp hj
    exact ⟨e, he, h1, by omega⟩
  · rintro ⟨e, he, h1, h2⟩
    exact ⟨_, List.mem_map.mpr ⟨e, he, rfl⟩, h1, by omega⟩

theorem parblockRanges_none (len : Nat) (sparse : Bool) : parblockRanges len sparse none = [(0, len)] := by
  cases sparse <;> rfl

theorem parblockJobs_whole {len : Nat} {sparse : Bool} {exts : Option (List Extent)}
    (h : parblockRanges len sparse exts = [(0, len)]) (b : Nat) :
    parblockJobs len b sparse exts = blocks 0 len b := by
  rw [parblockJobs, h]
  exact List.append_nil _

theorem parblockRanges_cover (len : Nat) (sparse : Bool) (exts : Option (List Extent)) (i : Nat) (hi : i < len)
    (hext : sparse = true → ∀ es, exts = some es → WF es ∧ covers es i) :
    covered (parblockRanges len sparse exts) i := by
  have whole : covered [(0, len)] i := ⟨(0, len), List.mem_singleton.mpr rfl, Nat.zero_le _, Nat.zero_add _ ▸ hi⟩
  cases sparse with
  | false => exact whole
  | true =>
    cases exts with
    | none => exact whole
    | some es =>
      obtain ⟨hw, hc⟩ := hext rfl es rfl
      exact (covered_extent_ranges _ i).mpr (merge_covers es hw i hc)

/-- parblock: block jobs each under their own legal kernel, all successful, their moves applied in any
order with any multiplicity — the destination equals the source -/
theorem parblock_exact_core (src : Bytes) (b : Nat) (hb : 0 < b) (sparse : Bool) (exts : Option (List Extent))
    (hext : sparse = true → ∀ es, exts = some es →
      WF es ∧ ∀ i, i < src.length → src[i]? ≠ some 0 → covers es i)
    (k : Nat × Nat → Kern) (hk : ∀ j, KernSafe (k j) src.length ∧ KernLive (k j) src.length)
    (hok : ∀ j ∈ parblockJobs src.length b sparse exts, ∃ n, (blockJob (k j) true j.1 j.2).stop = .ok n)
    (all : List (Nat × Nat))
    (hall : ∀ x, x ∈ all ↔ ∃ j ∈ parblockJobs src.length b sparse exts, x ∈ jobsOf (blockJob (k j) true j.1 j.2).evs) :
    runJobs src (List.replicate src.length 0) all = src := by
  apply runJobs_exact
  intro i hi hnc
  apply Classical.byContradiction
  intro hnz
  apply hnc
  have hr := parblockRanges_cover src.length sparse exts i hi
    (fun hsp es hes => ⟨(hext hsp es hes).1, (hext hsp es hes).2 i hi hnz⟩)
  obtain ⟨j, hjm, j1, j2⟩ := (covered_flatMap_blocks b hb _ i).mpr hr
  obtain ⟨n, hn⟩ := hok j hjm
  obtain ⟨_, hcov⟩ :=
    blockJob_linux_ok (k j) src.length (hk j).1 (hk j).2 j.1 j.2 n (Nat.le_trans j1 (Nat.le_of_lt hi)) hn
  obtain ⟨x, hx, x1, x2⟩ := (hcov i).mpr ⟨j1, Nat.lt_min.mpr ⟨j2, hi⟩⟩
  exact ⟨x, (hall x).mpr ⟨j, hjm, hx⟩, x1, x2⟩

end Xcp
