import XcpProofs.Clash
import XcpProofs.MultiClash
import XcpProofs.DerefClash
/-! # Sources and bystanders are untouched whatever the run does

For every reachable state of the concurrent model L0 — failed or not, complete or not, any interleaving — and for the
sequential execution whatever its exit, with no compatibility assumption, for targets that are absent or plain where the
source maps onto them (`Node.plainWhereMapped`; in particular made of directories and regular files, `Node.plainTree`):
every place that is not at or below a target is observed exactly as in the initial file system (`obsAt`: kind, content
id, link text, device; a directory is observed as a directory — its entry list is not part of the observation, so the
ancestors of a target, which may gain the target's entry, are covered too).  In particular the source trees (unrelated
to every target) and every other entry of the destination directory.  (No operation target passes through a destination
symbolic link: links are under names the source does not list.)

Proof: `FsInv` (AnyRunFrameLemmas) — no symbolic link is ever at or above a target or source of an operation of the
walk (`Plains`), so a successful operation changes only places at or below its own target (`exec_frame`, L0Fs), and
every target is at or below a target base; a failed operation changes nothing.

The same with `-L` (`deref_frame_setup`): in particular every place a symbolic link of the source leads to, anywhere in
the namespace, is observed unchanged; nothing is assumed about what the operations read (`ReadsAway` is not needed): a
`-L` run creates no symbolic link at all.  And with `--gitignore` (`gitignore_frame`): the operations are those of the
pruned tree.  For several sources and for `-L` this file gives the invariant at the start (`multi_frame_setup`,
`deref_frame_setup`) and the sequential statements; C03 reads the reachable states off `FsInv.run`. -/
namespace Xcp

open L0

/-- one source under patterns `ps`, the destination absent or plain where the pruned tree maps onto it: in every
reachable state of every interleaving, and after the sequential execution whatever its exit, whatever is not at or below
the target base is observed as in the initial file system -/
theorem gitignore_frame {fs : Fs} {src tb : RPath} {srcNode : Node} {fuel : Nat} (H : CopySetup fs src tb srcNode fuel)
    (c : Cfg) (hd : c.dereference = false) (hn : c.noClobber = false) (ps : List Gi.Pattern)
    (hplain : Node.mappedPlain (fs.root.getAt tb.names) (Node.prune ps [] srcNode) = true) :
    (∀ (ls : List Label) (s : St), run c (init fs (walkEntry fs c (some ps) src tb (fuel + 1) [] [])) ls = some s →
      ∀ q, ¬ tb.names <+: q → obsAt s.fs.root q = obsAt fs.root q) ∧
    ∀ q, ¬ tb.names <+: q →
      obsAt (execOps fs c (walkEntry fs c (some ps) src tb (fuel + 1) [] [])).fs.root q = obsAt fs.root q := by
  obtain ⟨hshape, hspec, hleaves⟩ := H.walk c hd hn ps
  obtain ⟨hFS, hinv⟩ := opsOf_frame_setup hspec fs H.wf hleaves H.par hplain
  rw [hshape]
  exact ⟨fun ls s hrun => (hinv.run hFS c ls s hrun).frame, (hinv.execOps hFS c).frame⟩

/-- … without patterns -/
theorem single_frame {fs : Fs} {src tb : RPath} {srcNode : Node} {fuel : Nat} (H : CopySetup fs src tb srcNode fuel)
    (c : Cfg) (hd : c.dereference = false) (hn : c.noClobber = false)
    (hplain : ∀ d, fs.root.getAt tb.names = some d → d.plainWhereMapped srcNode = true) :
    (∀ (ls : List Label) (s : St), run c (init fs (walkEntry fs c none src tb (fuel + 1) [] [])) ls = some s →
      ∀ q, ¬ tb.names <+: q → obsAt s.fs.root q = obsAt fs.root q) ∧
    ∀ q, ¬ tb.names <+: q →
      obsAt (execOps fs c (walkEntry fs c none src tb (fuel + 1) [] [])).fs.root q = obsAt fs.root q := by
  have h := gitignore_frame H c hd hn [] (by rw [prune_nil]; exact mappedPlain_of_forall hplain)
  rw [← walkEntry_none] at h
  exact h

theorem any_sequential_run_changes_only_the_target_mapped (fs : Fs) (c : Cfg) (hd : c.dereference = false)
    (hn : c.noClobber = false)
    (src tb : RPath) (srcNode : Node) (fuel : Nat)
    (hwf : FsEq fs fs) (hroot : fs.root.isDir = true)
    (hsrc : PlainTarget fs src) (hsn : fs.root.getAt src.names = some srcNode)
    (hcop : srcNode.Copyable fuel)
    (htb : PlainTarget fs tb) (hne : tb.names ≠ [])
    (hplain : ∀ d, fs.root.getAt tb.names = some d → d.plainWhereMapped srcNode = true)
    (hpar : ∃ es, fs.root.getAt tb.names.dropLast = some (.dir es))
    (hun1 : ¬ src.names <+: tb.names) (hun2 : ¬ tb.names <+: src.names)
    (hlen : src.names.length + fuel < 200 ∧ tb.names.length + fuel < 200)
    (q : List Name) (hq : ¬ tb.names <+: q) :
    obsAt (execOps fs c (walkEntry fs c none src tb (fuel + 1) [] [])).fs.root q = obsAt fs.root q := by
  exact (single_frame (.of_hyps hwf hroot hsrc hsn hcop htb hne hpar hun1 hun2 hlen) c hd hn hplain).2 q hq

theorem multi_frame_setup {fs : Fs} {dest : RPath} {items : List CopySrc} {fuel : Nat}
    (H : MultiHyp fs dest items fuel) (c : Cfg) (hd : c.dereference = false) (hn : c.noClobber = false)
    (hplain : ∀ e ∈ items, ∀ d, fs.root.getAt (dest.names ++ [e.base]) = some d → d.plainWhereMapped e.node = true) :
    multiOps fs c dest items = allOps dest.names items ∧
    FrameSpec fs (allOps dest.names items) (fun q => ∀ e ∈ items, ¬ dest.names ++ [e.base] <+: q) ∧
    FsInv fs (allOps dest.names items) (fun q => ∀ e ∈ items, ¬ dest.names ++ [e.base] <+: q) fs := by
  have hops := multiOps_shape H c hd (fun _ _ => .inl hn)
  have hspec := multi_mspec H
  have hdd := H.dd
  have hpl : ∀ x ∈ allOps dest.names items, Plains fs x :=
    plains_allOps hspec fs hdd (fun e he => (H.src e he).2.2.1) (fun e he => mappedPlain_of_forall (hplain e he))
  refine ⟨hops, frameSpec_of_bases (items.map fun e => dest.names ++ [e.base]) ?_ ?_ ?_ ?_ (.inl hspec.pairIndep)
    (hdd.elim fun _ h => isDir_of_getAt_dir h), ⟨H.wf, hpl, fun _ _ => rfl⟩⟩
  · intro T hT
    obtain ⟨e, _, rfl⟩ := List.mem_map.1 hT
    rw [List.dropLast_concat]
    exact hdd
  · intro q hq T hT
    obtain ⟨e, he, rfl⟩ := List.mem_map.1 hT
    exact hq e he
  · intro e _ hp
    have := List.prefix_nil.1 hp
    simp at this
  · intro x hx
    obtain ⟨e, he, rel, m, _, _, ex⟩ := hspec.char hx
    exact ⟨_, List.mem_map.2 ⟨e, he, rfl⟩, rel, m, _, ex⟩

theorem any_multi_sequential_run_changes_only_the_targets (fs : Fs) (c : Cfg) (dest : RPath) (items : List CopySrc)
    (fuel : Nat)
    (hd : c.dereference = false) (hn : c.noClobber = false)
    (hwf : FsEq fs fs)
    (hdd : ∃ es, fs.root.getAt dest.names = some (.dir es))
    (hfuel : fuel < walkFuel)
    (hsrc : ∀ e ∈ items, PlainTarget fs e.path ∧ e.path.fileName = some e.base ∧
      fs.root.getAt e.path.names = some e.node ∧ e.node.Copyable fuel ∧ e.path.names.length + walkFuel < 256)
    (hnd : (items.map (·.base)).Nodup)
    (hun : ∀ e ∈ items, ∀ e' ∈ items,
      ¬ e.path.names <+: dest.names ++ [e'.base] ∧ ¬ dest.names ++ [e'.base] <+: e.path.names)
    (hplain : ∀ e ∈ items, ∀ d, fs.root.getAt (dest.names ++ [e.base]) = some d → d.plainTree = true)
    (hlen : dest.names.length + 1 + walkFuel < 256)
    (q : List Name) (hq : ∀ e ∈ items, ¬ dest.names ++ [e.base] <+: q) :
    obsAt (execOps fs c (multiOps fs c dest items)).fs.root q = obsAt fs.root q := by
  obtain ⟨hops, hspec, hinv⟩ := multi_frame_setup ⟨hwf, hdd, hfuel, hsrc, hnd, hun, hlen⟩ c hd hn
    (fun e he d hd => plainWhereMapped_of_plainTree _ _ (hplain e he d hd))
  rw [hops]
  exact (hinv.execOps hspec c).frame q hq

theorem deref_frame_setup {fs : Fs} {src tb : RPath} {s : SNode} {fuel : Nat} (H : DerefSetup fs src tb s fuel)
    (c : Cfg) (hd : c.dereference = true) (hn : c.noClobber = false)
    (hplain : Node.mappedPlain (fs.root.getAt tb.names) s.erase = true) :
    walkEntry fs c none src tb (fuel + 1) [] [] = opsOfS s tb.names ∧
    FrameSpec fs (opsOfS s tb.names) (fun q => ¬ tb.names <+: q) ∧
    FsInv fs (opsOfS s tb.names) (fun q => ¬ tb.names <+: q) fs := by
  obtain ⟨hshape, _, hchar, hnolink⟩ := H.walk c hd hn
  exact ⟨hshape, tree_frame_setup fs H.wf hchar (.inr hnolink) H.ne H.par (mappedPlain_no_link hplain)⟩

theorem any_deref_sequential_run_changes_only_the_target (fs : Fs) (c : Cfg) (hd : c.dereference = true)
    (hn : c.noClobber = false)
    (src tb : RPath) (s : SNode) (fuel : Nat)
    (hwf : FsEq fs fs)
    (hsrc : AbsNames src)
    (hder : derefS fs (fuel + 1) src.names [] = some s)
    (htb : PlainTarget fs tb) (hne : tb.names ≠ [])
    (hplain : ∀ d, fs.root.getAt tb.names = some d → d.plainTree = true)
    (hpar : ∃ es, fs.root.getAt tb.names.dropLast = some (.dir es))
    (hlen : tb.names.length + fuel < 255) :
    ∀ q, ¬ tb.names <+: q →
      obsAt (execOps fs c (walkEntry fs c none src tb (fuel + 1) [] [])).fs.root q = obsAt fs.root q := by
  obtain ⟨hshape, hspec, hinv⟩ := deref_frame_setup ⟨hwf, hsrc, hder, htb, hne, hpar, hlen⟩ c hd hn
    (mappedPlain_of_forall fun d h => plainWhereMapped_of_plainTree d s.erase (hplain d h))
  rw [hshape]
  intro q hq
  exact (hinv.execOps hspec c).frame q hq

theorem any_gitignore_sequential_run_changes_only_the_target (fs : Fs) (c : Cfg) (hd : c.dereference = false)
    (hn : c.noClobber = false) (ps : List Gi.Pattern)
    (src tb : RPath) (srcNode : Node) (fuel : Nat)
    (hwf : FsEq fs fs) (hroot : fs.root.isDir = true)
    (hsrc : PlainTarget fs src) (hsn : fs.root.getAt src.names = some srcNode)
    (hcop : srcNode.Copyable fuel)
    (htb : PlainTarget fs tb) (hne : tb.names ≠ [])
    (hplain : ∀ d, fs.root.getAt tb.names = some d → d.plainTree = true)
    (hpar : ∃ es, fs.root.getAt tb.names.dropLast = some (.dir es))
    (hun1 : ¬ src.names <+: tb.names) (hun2 : ¬ tb.names <+: src.names)
    (hlen : src.names.length + fuel < 200 ∧ tb.names.length + fuel < 200)
    (q : List Name) (hq : ¬ tb.names <+: q) :
    obsAt (execOps fs c (walkEntry fs c (some ps) src tb (fuel + 1) [] [])).fs.root q = obsAt fs.root q := by
  exact (gitignore_frame (.of_hyps hwf hroot hsrc hsn hcop htb hne hpar hun1 hun2 hlen) c hd hn ps
    (mappedPlain_of_forall fun d h => plainWhereMapped_of_plainTree d _ (hplain d h))).2 q hq

end Xcp
