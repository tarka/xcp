import XcpModel.Walker
/-! # Running one thing after the other, stopping at the first failure

`execOps` over a concatenation and `runSources` over the sources are the same recursion: run the first part; if it
succeeded go on from the state it left, otherwise stop with its outcome (`Outcome.andThen`).  `foldRun run1` is that
recursion for an arbitrary one-item runner; `execOps` over a `flatMap` and `runSources` are instances. -/
namespace Xcp

/-- go on with `k` from the state `o` ended in, unless `o` failed -/
def Outcome.andThen (o : Outcome) (k : Fs → Outcome) : Outcome :=
  match o.exit with
  | .ok => k o.fs
  | .err => o

theorem execOps_append (c : Cfg) (b : List Op) : ∀ (a : List Op) (fs : Fs),
    execOps fs c (a ++ b) = (execOps fs c a).andThen fun g => execOps g c b := by
  intro a
  induction a with
  | nil => intro fs; rfl
  | cons op r ih =>
    intro fs
    simp only [List.cons_append, execOps]
    cases execOp fs c op with
    | none => rfl
    | some fs' => exact ih fs'

/-- run the items in order with `run1`, each from the state the previous one left; stop at the first failure -/
def foldRun {α : Type} (run1 : Fs → α → Outcome) : Fs → List α → Outcome
  | fs, [] => ⟨.ok, fs⟩
  | fs, a :: r => (run1 fs a).andThen fun g => foldRun run1 g r

theorem foldRun_cons_ok {α : Type} {run1 : Fs → α → Outcome} {fs g : Fs} {a : α} (h : run1 fs a = ⟨.ok, g⟩)
    (r : List α) : foldRun run1 fs (a :: r) = foldRun run1 g r := by
  simp only [foldRun, h, Outcome.andThen]

theorem foldRun_cons_err {α : Type} {run1 : Fs → α → Outcome} {fs : Fs} {a : α} (h : (run1 fs a).exit = .err)
    (r : List α) : foldRun run1 fs (a :: r) = run1 fs a := by
  simp only [foldRun, Outcome.andThen, h]

theorem foldRun_map {α β : Type} (f : α → β) (run1 : Fs → β → Outcome) : ∀ (l : List α) (fs : Fs),
    foldRun run1 fs (l.map f) = foldRun (fun g a => run1 g (f a)) fs l := by
  intro l
  induction l with
  | nil => intro fs; rfl
  | cons a r ih =>
    intro fs
    simp only [List.map_cons, foldRun, ih]

theorem execOps_flatMap {α : Type} (c : Cfg) (ops : α → List Op) : ∀ (l : List α) (fs : Fs),
    execOps fs c (l.flatMap ops) = foldRun (fun g a => execOps g c (ops a)) fs l := by
  intro l
  induction l with
  | nil => intro fs; rfl
  | cons a r ih =>
    intro fs
    simp only [List.flatMap_cons, foldRun, execOps_append, ih]

/-- what `runSources` does with one source -/
def runSource (c : Cfg) (texts : GiTexts) (dest : RPath) (fs : Fs) (s : RPath) : Outcome :=
  match targetBase fs c dest s with
  | none => ⟨.err, fs⟩
  | some tb => execOps fs c (walkEntry fs c (parseIgnore fs c texts s) s tb walkFuel [] [])

theorem runSource_eq {c : Cfg} {texts : GiTexts} {dest s tb : RPath} {fs : Fs} {ps : Ignore}
    (h1 : targetBase fs c dest s = some tb) (h2 : parseIgnore fs c texts s = ps) :
    runSource c texts dest fs s = execOps fs c (walkEntry fs c ps s tb walkFuel [] []) := by
  simp only [runSource, h1, h2]

theorem runSources_eq_foldRun (c : Cfg) (texts : GiTexts) (dest : RPath) : ∀ (ps : List RPath) (fs : Fs),
    runSources fs c texts dest ps = foldRun (runSource c texts dest) fs ps := by
  intro ps
  induction ps with
  | nil => intro fs; rfl
  | cons s r ih =>
    intro fs
    simp only [runSources, foldRun, runSource, Outcome.andThen]
    cases targetBase fs c dest s with
    | none => rfl
    | some tb =>
      simp only
      cases (execOps fs c (walkEntry fs c (parseIgnore fs c texts s) s tb walkFuel [] [])).exit with
      | ok => exact ih _
      | err => rfl

end Xcp
