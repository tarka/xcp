/-! Runs of a transition system given by a partial `step` function.  Each concurrent model (`Pool`, `PoolF`, `Parfile`,
`Status`) defines its own `run` by the same recursion over the label list; the lemmas here take the two equations of
that recursion as hypotheses `hnil`, `hcons`. -/
namespace Xcp.Lts

variable {σ ι : Type} {step : σ → ι → Option σ} {run : σ → List ι → Option σ}

theorem run_ind (hnil : ∀ s, run s [] = some s) (hcons : ∀ s l ls, run s (l :: ls) = (step s l).bind (run · ls))
    (P : σ → Prop) (hs : ∀ s l s', P s → step s l = some s' → P s') :
    ∀ (ls : List ι) (s0 s : σ), P s0 → run s0 ls = some s → P s
  | [], s0, s, h0, h => by
    rw [hnil] at h
    exact Option.some.inj h ▸ h0
  | l :: ls, s0, s, h0, h => by
    rw [hcons] at h
    obtain ⟨s1, h1, h2⟩ := Option.bind_eq_some_iff.mp h
    exact run_ind hnil hcons P hs ls s1 s (hs _ _ _ h0 h1) h2

/-- … so it holds of every state reached from a state where it holds -/
theorem reach_ind (hnil : ∀ s, run s [] = some s) (hcons : ∀ s l ls, run s (l :: ls) = (step s l).bind (run · ls))
    (P : σ → Prop) {s0 s : σ} (h0 : P s0) (hs : ∀ s l s', P s → step s l = some s' → P s')
    (h : ∃ ls, run s0 ls = some s) : P s :=
  h.elim fun ls hl => run_ind hnil hcons P hs ls s0 s h0 hl

theorem run_len_le (hnil : ∀ s, run s [] = some s) (hcons : ∀ s l ls, run s (l :: ls) = (step s l).bind (run · ls))
    (m : σ → Nat) (hm : ∀ s s' l, step s l = some s' → m s' < m s) :
    ∀ (ls : List ι) (s s' : σ), run s ls = some s' → m s' + ls.length ≤ m s
  | [], s, s', h => by
    rw [hnil] at h
    exact Option.some.inj h ▸ Nat.le_refl _
  | l :: ls, s, s', h => by
    rw [hcons] at h
    obtain ⟨s1, h1, h2⟩ := Option.bind_eq_some_iff.mp h
    have := run_len_le hnil hcons m hm ls s1 s' h2
    have := hm s s1 l h1
    rw [List.length_cons]
    omega

theorem run_len_eq (hnil : ∀ s, run s [] = some s) (hcons : ∀ s l ls, run s (l :: ls) = (step s l).bind (run · ls))
    (m : σ → Nat) (hm : ∀ s s' l, step s l = some s' → m s' + 1 = m s) :
    ∀ (ls : List ι) (s s' : σ), run s ls = some s' → m s' + ls.length = m s
  | [], s, s', h => by
    rw [hnil] at h
    exact Option.some.inj h ▸ rfl
  | l :: ls, s, s', h => by
    rw [hcons] at h
    obtain ⟨s1, h1, h2⟩ := Option.bind_eq_some_iff.mp h
    have := run_len_eq hnil hcons m hm ls s1 s' h2
    have := hm s s1 l h1
    rw [List.length_cons]
    omega

end Xcp.Lts
