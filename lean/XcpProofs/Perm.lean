import XcpProofs.Bytes
/-! Order-independence of effects that commute on states satisfying an invariant (generic), instantiated to block jobs. -/
namespace Xcp
variable {σ α : Type}

/-- the effects `l` applied in order to the state `s` -/
def run (f : σ → α → σ) (s : σ) (l : List α) : σ := l.foldl f s

/-- `x` and `y` may be swapped in any state satisfying the invariant `P` -/
def CommOn (P : σ → Prop) (f : σ → α → σ) (x y : α) : Prop := ∀ s, P s → f (f s x) y = f (f s y) x

theorem run_move_front (P : σ → Prop) (f : σ → α → σ) (hP : ∀ s a, P s → P (f s a)) (x : α) (pre post : List α)
    (h : ∀ y ∈ pre, CommOn P f y x) (s : σ) (hs : P s) :
    run f s (pre ++ x :: post) = run f s (x :: pre ++ post) := by
  induction pre generalizing s with
  | nil => rfl
  | cons y ys ih =>
    have hy : CommOn P f y x := h y (by simp)
    have := ih (fun z hz => h z (by simp [hz])) (f s y) (hP s y hs)
    simp only [run, List.cons_append, List.foldl_cons] at this ⊢
    rw [this, hy s hs]

/-- `a` occurs somewhere before `b` in `l` -/
def Before (l : List α) (a b : α) : Prop := List.Sublist [a, b] l

theorem run_perm_of_comm (P : σ → Prop) (f : σ → α → σ) (hP : ∀ s a, P s → P (f s a)) :
    ∀ (l1 l2 : List α), l1.Perm l2 → l1.Nodup →
      (∀ a b, Before l1 a b → Before l2 b a → CommOn P f a b) →
      ∀ s, P s → run f s l1 = run f s l2 := by
  intro l1
  induction l1 with
  | nil => intro l2 hp _ _ s _; have := hp.symm.eq_nil; subst this; rfl
  | cons x t ih =>
    intro l2 hp hn hc s hs
    have hx : x ∈ l2 := hp.subset (by simp)
    obtain ⟨pre, post, rfl⟩ := List.append_of_mem hx
    have hnd := List.nodup_cons.mp hn
    have hn2 : (pre ++ x :: post).Nodup := hp.nodup_iff.mp hn
    have hpre : ∀ y ∈ pre, CommOn P f y x := by
      intro y hy
      have hyx : y ≠ x := by
        intro e; subst e
        exact (List.nodup_append.mp hn2).2.2 y hy y (by simp) rfl
      have hyt : y ∈ t := by
        rcases List.mem_cons.mp (hp.symm.subset (by simp [hy]) : y ∈ x :: t) with h | h
        · exact absurd h hyx
        · exact h
      have h1 : Before (x :: t) x y := List.Sublist.cons_cons x (List.singleton_sublist.mpr hyt)
      have h2 : Before (pre ++ x :: post) y x := by
        have a : List.Sublist [y] pre := List.singleton_sublist.mpr hy
        have b : List.Sublist [x] (x :: post) := List.Sublist.cons_cons x (List.nil_sublist _)
        simpa [Before] using List.Sublist.append a b
      intro s hs; exact ((hc x y h1 h2) s hs).symm
    rw [run_move_front P f hP x pre post hpre s hs]
    simp only [run, List.foldl_cons]
    have hp' : t.Perm (pre ++ post) := List.Perm.cons_inv (hp.trans List.perm_middle)
    apply ih (pre ++ post) hp' hnd.2 _ _ (hP s x hs)
    intro a b hab hba
    apply hc a b
    · exact List.Sublist.cons x hab
    · exact hba.trans (List.Sublist.append (List.Sublist.refl pre) (List.sublist_cons_self x post))

/-- one block job as an effect on the destination's bytes -/
def job (src : List Byte) (dst : List Byte) (j : Nat × Nat) : List Byte := copyRange src dst j.1 j.2

/-- two `(offset, length)` jobs do not overlap -/
def Disjoint2 (a b : Nat × Nat) : Prop := a.1 + a.2 ≤ b.1 ∨ b.1 + b.2 ≤ a.1

/-- all jobs of one source commute on destinations of the source's length.  `run (job src)` is `runJobs src`,
so the same follows, even without `Nodup`, from `runJobs_ext`: a permutation covers the same positions -/
theorem jobs_any_order (src dst : List Byte) (l1 l2 : List (Nat × Nat))
    (hp : l1.Perm l2) (hn : l1.Nodup) (hl : dst.length = src.length) :
    run (job src) dst l1 = run (job src) dst l2 :=
  run_perm_of_comm (fun d => d.length = src.length) (job src)
    (fun d j hd => copyRange_length src d j.1 j.2 hd) l1 l2 hp hn
    (fun a b _ _ d hd => copyRange_comm src d a.1 a.2 b.1 b.2 hd) dst hl

end Xcp
