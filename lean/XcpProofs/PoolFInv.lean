import XcpModel.PoolF
import XcpProofs.ListAux
import XcpProofs.Lts
import XcpProofs.Monitor
/-! Invariants of the dispatcher/pool model with failures (`Xcp.PoolF`), for every reachable state (every schedule,
any failures): the strong count of a handle is the number of its holders — queued jobs, running jobs, the dispatcher —
(`CInv`, C20); a finalised handle has no holder left (`LInv`, the trace monitor); a handle below `next` has a holder
or is closed (`NoLeak`, nothing leaks).  The model without failures is the fragment of this one without the labels
`failJob`, `abort`; `XcpProofs/PoolInv.lean` carries the results over. -/
namespace Xcp.PoolF

/-- steps still possible: each file of `b` blocks needs 1 open + b pushes + 1 drop + b takes + 3b job moves; plus one
for a dispatcher that may still abort -/
def measure (s : St) : Nat :=
  (s.files.map fun b => 5 * b + 2).sum
  + (match s.cur with | some (_, _, left) => 5 * left + 1 | none => 0)
  + 4 * s.queue.length
  + (s.running.map fun jp => match jp.2 with | .copying => 3 | .written => 2 | .reported => 1).sum
  + (if s.aborted then 0 else 1)

/-- the labels that the model without failures does not have -/
def Label.fails : Label → Bool
  | .failJob _ | .abort => true
  | _ => false

/-- what `Drop` of handle `h` appends to the log.  `PoolF.Event` is a type of its own: `dropLog` and, below, the bridge
from `writesBeforeFinalise` to `Mon` are stated for it as `XcpProofs/PoolLog.lean` states them for `Pool.Event`. -/
def dropLog (fs : Bool) (h : Hid) : List Event :=
  [.finalise h] ++ (if fs then [.fsync h] else []) ++ [.closed h]

theorem mem_dropLog {fs : Bool} {h : Hid} {e : Event} :
    e ∈ dropLog fs h ↔ e = .finalise h ∨ (fs = true ∧ e = .fsync h) ∨ e = .closed h := by
  cases fs <;> simp [dropLog]

theorem release_eq (s : St) (h : Hid) :
    release s h = { s with refs := fun x => if x = h then s.refs h - 1 else s.refs x,
                           isOpen := fun x => if x = h ∧ s.refs h - 1 = 0 then false else s.isOpen x,
                           log := s.log ++ if s.refs h - 1 = 0 then dropLog s.fsyncOn h else [] } := by
  by_cases hr : s.refs h - 1 = 0 <;> simp [release, hr, dropLog]

theorem step_openNext {s s' : St} (h : step s .openNext = some s') :
    ∃ b fs, s.cur = none ∧ s.files = b :: fs ∧
      s' = { s with files := fs, cur := some (s.next, 0, b), next := s.next + 1,
                    refs := fun x => if x = s.next then 1 else s.refs x,
                    isOpen := fun x => if x = s.next then true else s.isOpen x,
                    log := s.log ++ [.opened s.next] } := by
  simp only [step] at h
  split at h
  · next b fs hc hf => exact ⟨b, fs, hc, hf, by simpa using h.symm⟩
  · simp at h

theorem step_push {s s' : St} (h : step s .push = some s') :
    ∃ hd q b, s.cur = some (hd, q, b+1) ∧ s.queue.length < s.cap ∧
      s' = { s with cur := some (hd, q+1, b), queue := s.queue ++ [⟨hd, q⟩],
                    refs := fun x => if x = hd then s.refs x + 1 else s.refs x } := by
  simp only [step] at h
  split at h
  · next hd q b hc =>
    split at h
    · next hq => exact ⟨hd, q, b, hc, hq, by simpa using h.symm⟩
    · simp at h
  · simp at h

theorem step_dropOwn {s s' : St} (h : step s .dropOwn = some s') :
    ∃ hd q, s.cur = some (hd, q, 0) ∧ s' = release { s with cur := none } hd := by
  simp only [step] at h
  split at h
  · next hd q hc => exact ⟨hd, q, hc, by simpa using h.symm⟩
  · simp at h

theorem step_take {s s' : St} (h : step s .take = some s') :
    ∃ j q, s.queue = j :: q ∧ s.running.length < s.workers ∧
      s' = { s with queue := q, running := s.running ++ [(j, .copying)] } := by
  simp only [step] at h
  split at h
  · next j q hq =>
    split at h
    · next hr => exact ⟨j, q, hq, hr, by simpa using h.symm⟩
    · simp at h
  · simp at h

theorem step_stepJob {s s' : St} {i : Nat} (h : step s (.stepJob i) = some s') :
    (∃ j, s.running[i]? = some (j, .copying) ∧
      s' = { s with running := s.running.set i (j, .written), log := s.log ++ [.write j.h j.blk] }) ∨
    (∃ j, s.running[i]? = some (j, .written) ∧
      s' = { s with running := s.running.set i (j, .reported), log := s.log ++ [.copied j.h j.blk] }) ∨
    (∃ j, s.running[i]? = some (j, .reported) ∧
      s' = release { s with running := s.running.eraseIdx i } j.h) := by
  simp only [step] at h
  split at h
  · next j hr => exact .inl ⟨j, hr, by simpa using h.symm⟩
  · next j hr => exact .inr (.inl ⟨j, hr, by simpa using h.symm⟩)
  · next j hr => exact .inr (.inr ⟨j, hr, by simpa using h.symm⟩)
  · simp at h

theorem step_failJob {s s' : St} {i : Nat} (h : step s (.failJob i) = some s') :
    ∃ j, s.running[i]? = some (j, .copying) ∧
      s' = { s with running := s.running.set i (j, .reported), log := s.log ++ [.failed j.h j.blk] } := by
  simp only [step] at h
  split at h
  · next j hr => exact ⟨j, hr, by simpa using h.symm⟩
  · simp at h

theorem step_abort {s s' : St} (h : step s .abort = some s') :
    s.aborted = false ∧
    ((∃ hd q left, s.cur = some (hd, q, left) ∧
        s' = release { s with cur := none, files := [], aborted := true, log := s.log ++ [.aborted] } hd) ∨
     (s.cur = none ∧ s' = { s with files := [], aborted := true, log := s.log ++ [.aborted] })) := by
  simp only [step] at h
  split at h
  · simp at h
  · next ha =>
    refine ⟨by simpa using ha, ?_⟩
    split at h
    · next hd q left hc => exact .inl ⟨hd, q, left, hc, by simpa using h.symm⟩
    · next hc => exact .inr ⟨hc, by simpa using h.symm⟩

/-- the moves a running job still makes: copy, report, return -/
def phaseCost (jp : Job × Phase) : Nat :=
  match jp.2 with | .copying => 3 | .written => 2 | .reported => 1

theorem measure_eq (s : St) : measure s =
    (s.files.map fun b => 5 * b + 2).sum + (match s.cur with | some (_, _, left) => 5 * left + 1 | none => 0)
    + 4 * s.queue.length + (s.running.map phaseCost).sum + (if s.aborted then 0 else 1) := rfl

theorem measure_release (t : St) (h : Hid) : measure (release t h) = measure t := by
  rw [release_eq]
  rfl

/-- a change of the running jobs (and of the log) shows in the measure as it shows in their costs -/
theorem measure_running (s : St) (running : List (Job × Phase)) (log : List Event) {k k' : Nat}
    (h : (running.map phaseCost).sum + k = (s.running.map phaseCost).sum + k') :
    measure { s with running := running, log := log } + k = measure s + k' := by
  simp only [measure_eq]
  omega

theorem step_measure_exact (s s' : St) (l : Label) (h : step s l = some s') (hl : l.fails = false) :
    measure s' + 1 = measure s := by
  cases l with
  | openNext =>
    obtain ⟨b, fs, hc, hf, rfl⟩ := step_openNext h
    simp only [measure_eq, hc, hf, List.map_cons, List.sum_cons]
    simp +arith
  | push =>
    obtain ⟨hd, q, b, hc, hq, rfl⟩ := step_push h
    simp only [measure_eq, hc, List.length_append, List.length_singleton]
    simp +arith
  | dropOwn =>
    obtain ⟨hd, q, hc, rfl⟩ := step_dropOwn h
    rw [measure_release]
    simp only [measure_eq, hc]
    simp +arith
  | take =>
    obtain ⟨j, q, hq, hr, rfl⟩ := step_take h
    simp only [measure_eq, hq, List.map_append, List.sum_append, List.map_cons, List.map_nil, List.sum_cons, List.sum_nil,
      List.length_cons, show phaseCost (j, .copying) = 3 from rfl]
    simp +arith
  | stepJob i =>
    obtain ⟨j, hr, rfl⟩ | ⟨j, hr, rfl⟩ | ⟨j, hr, rfl⟩ := step_stepJob h
    · have := measure_running s _ (s.log ++ [.write j.h j.blk]) (k := 3) (k' := 2)
        (sum_map_set phaseCost (j, .written) _ _ _ hr)
      exact Nat.add_right_cancel (m := 2) this
    · have := measure_running s _ (s.log ++ [.copied j.h j.blk]) (k := 2) (k' := 1)
        (sum_map_set phaseCost (j, .reported) _ _ _ hr)
      exact Nat.add_right_cancel (m := 1) this
    · rw [measure_release]
      exact measure_running s _ s.log (k := 1) (k' := 0) (sum_map_eraseIdx phaseCost _ _ _ hr)
  | failJob i => cases hl
  | abort => cases hl

/-- every step — including a failing job and an aborting dispatcher — strictly decreases the measure:
every schedule with any failures is finite -/
theorem step_measure_lt (s s' : St) (l : Label) (h : step s l = some s') : measure s' < measure s := by
  cases l with
  | failJob i =>
    obtain ⟨j, hr, rfl⟩ := step_failJob h
    have := measure_running s _ (s.log ++ [.failed j.h j.blk]) (k := 3) (k' := 1)
      (sum_map_set phaseCost (j, .reported) _ _ _ hr)
    exact Nat.lt_of_lt_of_eq (Nat.lt_add_of_pos_right (Nat.succ_pos 1)) (Nat.add_right_cancel (m := 1) this)
  | abort =>
    obtain ⟨ha, ⟨hd, q, left, hc, rfl⟩ | ⟨hc, rfl⟩⟩ := step_abort h
    · rw [measure_release]
      simp only [measure_eq, hc, ha, List.map_nil, List.sum_nil, Bool.false_eq_true, ↓reduceIte]
      simp +arith
    · simp only [measure_eq, hc, ha, List.map_nil, List.sum_nil, Bool.false_eq_true, ↓reduceIte]
      simp +arith
  | _ => exact Nat.lt_of_lt_of_eq (Nat.lt_succ_self _) (step_measure_exact s s' _ h rfl)

theorem run_cons (s : St) (l : Label) (ls : List Label) : run s (l :: ls) = (step s l).bind (run · ls) := by
  simp only [run]
  cases step s l <;> rfl

theorem run_measure (s s' : St) (ls : List Label) (h : run s ls = some s') : measure s' + ls.length ≤ measure s :=
  Lts.run_len_le (fun _ => rfl) run_cons measure step_measure_lt ls s s' h

theorem mem_candidates_of_dispatcher {s : St} {l : Label} (h : l ∈ [Label.openNext, .push, .dropOwn, .take, .abort]) :
    l ∈ candidates s :=
  List.mem_append_left _ (List.mem_append_left _ h)

/-- no deadlock, also after failures: with at least one worker and one queue slot, in every non-final state some label
other than a failure (`failJob`, `abort`) is enabled -/
theorem progress (s : St) (hw : 0 < s.workers) (hc : 0 < s.cap) (hf : final s = false) :
    ∃ l, l.fails = false ∧ l ∈ candidates s ∧ (step s l).isSome := by
  cases hr : s.running with
  | cons jp r =>
    have hm : Label.stepJob 0 ∈ candidates s :=
      List.mem_append_left _ (List.mem_append_right _
        (List.mem_map.mpr ⟨0, List.mem_range.mpr (hr ▸ Nat.succ_pos _), rfl⟩))
    refine ⟨.stepJob 0, rfl, hm, ?_⟩
    obtain ⟨j, p⟩ := jp
    cases p <;> simp [step, hr]
  | nil =>
    cases hq : s.queue with
    | cons j q =>
      exact ⟨.take, rfl, mem_candidates_of_dispatcher (by decide), by simp [step, hq, hr, hw]⟩
    | nil =>
      cases hcur : s.cur with
      | some c =>
        obtain ⟨hd, q, left⟩ := c
        cases left with
        | zero => exact ⟨.dropOwn, rfl, mem_candidates_of_dispatcher (by decide), by simp [step, hcur]⟩
        | succ b =>
          exact ⟨.push, rfl, mem_candidates_of_dispatcher (by decide), by simp [step, hcur, hq, hc]⟩
      | none =>
        cases hfl : s.files with
        | nil => simp [final, hr, hq, hcur, hfl] at hf
        | cons b fs =>
          exact ⟨.openNext, rfl, mem_candidates_of_dispatcher (by decide), by simp [step, hcur, hfl]⟩

theorem no_deadlock (s : St) (hw : 0 < s.workers) (hc : 0 < s.cap) (hf : final s = false) : enabled s ≠ [] := by
  obtain ⟨l, _, hl, hs⟩ := progress s hw hc hf
  exact List.ne_nil_of_mem (List.mem_filter.mpr ⟨hl, hs⟩)

theorem step_params (s s' : St) (l : Label) (h : step s l = some s') :
    s'.cap = s.cap ∧ s'.workers = s.workers ∧ s'.fsyncOn = s.fsyncOn := by
  cases l with
  | openNext => obtain ⟨b, fs, hc, hf, rfl⟩ := step_openNext h; exact ⟨rfl, rfl, rfl⟩
  | push => obtain ⟨hd, q, b, hc, hq, rfl⟩ := step_push h; exact ⟨rfl, rfl, rfl⟩
  | dropOwn => obtain ⟨hd, q, hc, rfl⟩ := step_dropOwn h; rw [release_eq]; exact ⟨rfl, rfl, rfl⟩
  | take => obtain ⟨j, q, hq, hr, rfl⟩ := step_take h; exact ⟨rfl, rfl, rfl⟩
  | stepJob i =>
    obtain ⟨j, hr, rfl⟩ | ⟨j, hr, rfl⟩ | ⟨j, hr, rfl⟩ := step_stepJob h
    · exact ⟨rfl, rfl, rfl⟩
    · exact ⟨rfl, rfl, rfl⟩
    · rw [release_eq]; exact ⟨rfl, rfl, rfl⟩
  | failJob i => obtain ⟨j, hr, rfl⟩ := step_failJob h; exact ⟨rfl, rfl, rfl⟩
  | abort =>
    obtain ⟨ha, ⟨hd, q, left, hc, rfl⟩ | ⟨hc, rfl⟩⟩ := step_abort h
    · rw [release_eq]; exact ⟨rfl, rfl, rfl⟩
    · exact ⟨rfl, rfl, rfl⟩

theorem params_reachable {files : List Nat} {cap workers : Nat} {fs : Bool} {s : St}
    (h : Reachable files cap workers fs s) : s.cap = cap ∧ s.workers = workers ∧ s.fsyncOn = fs :=
  Lts.reach_ind (fun _ => rfl) run_cons (fun s => s.cap = cap ∧ s.workers = workers ∧ s.fsyncOn = fs)
    ⟨rfl, rfl, rfl⟩
    (fun s l s' inv hs => by
      obtain ⟨h1, h2, h3⟩ := step_params s s' l hs
      exact ⟨h1.trans inv.1, h2.trans inv.2.1, h3.trans inv.2.2⟩) h

/-- 1 if the dispatcher holds a clone of `h`, else 0 -/
def curOcc (c : Option (Hid × Nat × Nat)) (h : Hid) : Nat :=
  match c with
  | some (h', _, _) => if h = h' then 1 else 0
  | none => 0

/-- number of holders of a clone of `h`: queued jobs, running jobs, the dispatcher -/
def occ (s : St) (h : Hid) : Nat :=
  s.queue.countP (fun j => h = j.h) + s.running.countP (fun jp => h = jp.1.h) + curOcc s.cur h

/-- the counting invariant: the strong count of a handle is the number of its holders, a handle is open exactly while
it is counted, handles not yet given out have no count, queue and pool respect their bounds -/
structure CInv (s : St) : Prop where
  refs_eq  : ∀ h, s.refs h = occ s h
  open_iff : ∀ h, s.isOpen h = true ↔ 0 < s.refs h
  fresh    : ∀ h, s.next ≤ h → s.refs h = 0
  qcap     : s.queue.length ≤ s.cap
  rcap     : s.running.length ≤ s.workers

theorem cinv_init (files : List Nat) (cap workers : Nat) (fs : Bool) : CInv (init files cap workers fs) := by
  constructor <;> simp [init, occ, curOcc]

theorem holder_pos {s : St} (inv : CInv s) {h : Hid} (hp : 0 < occ s h) : 0 < s.refs h ∧ h < s.next := by
  have hpos : 0 < s.refs h := inv.refs_eq h ▸ hp
  exact ⟨hpos, Nat.lt_of_not_le fun hle => Nat.ne_of_gt hpos (inv.fresh h hle)⟩

theorem cur_occ_pos {s : St} {hd q b} (hc : s.cur = some (hd, q, b)) : 0 < occ s hd := by
  simp [occ, curOcc, hc]

theorem running_occ_pos {s : St} {i : Nat} {j : Job} {p : Phase} (hr : s.running[i]? = some (j, p)) :
    0 < occ s j.h := by
  have : 0 < s.running.countP (fun jp => j.h = jp.1.h) :=
    List.countP_pos_iff.mpr ⟨(j, p), List.mem_of_getElem? hr, by simp⟩
  exact Nat.lt_of_lt_of_le this (Nat.le_trans (Nat.le_add_left _ _) (Nat.le_add_right _ _))

/-- `release` of `hd` in a state that lacks one holder of `hd` for the invariant -/
theorem cinv_release {t : St} (hd : Hid)
    (hrefs : ∀ x, t.refs x = occ t x + if x = hd then 1 else 0)
    (hopen : ∀ h, t.isOpen h = true ↔ 0 < t.refs h) (hfresh : ∀ h, t.next ≤ h → t.refs h = 0)
    (hq : t.queue.length ≤ t.cap) (hr : t.running.length ≤ t.workers) : CInv (release t hd) := by
  rw [release_eq]
  refine ⟨fun x => ?_, fun x => ?_, fun x hx => ?_, hq, hr⟩
  · have h1 := hrefs x
    show (if x = hd then t.refs hd - 1 else t.refs x) = occ t x
    split
    · next e => subst e; simp only [↓reduceIte] at h1; omega
    · next e => simpa only [e, ↓reduceIte, Nat.add_zero] using h1
  · have h1 := hopen x
    show (if x = hd ∧ t.refs hd - 1 = 0 then false else t.isOpen x) = true ↔
      0 < if x = hd then t.refs hd - 1 else t.refs x
    by_cases e : x = hd
    · subst e
      by_cases z : t.refs x - 1 = 0
      · simp only [z, and_self, ↓reduceIte, Bool.false_eq_true, Nat.lt_irrefl]
      · simp only [z, and_false, ↓reduceIte, h1]; omega
    · simpa only [e, false_and, ↓reduceIte] using h1
  · have h1 := hfresh x hx
    show (if x = hd then t.refs hd - 1 else t.refs x) = 0
    split
    · next e => rw [← e, h1]
    · exact h1

theorem cinv_dropCur {s t : St} (inv : CInv s) {hd q b} (hc : s.cur = some (hd, q, b))
    (ht : t.cur = none) (hq : t.queue = s.queue) (hr : t.running = s.running) (hrefs : t.refs = s.refs)
    (hopen : t.isOpen = s.isOpen) (hnext : t.next = s.next) (hcap : t.cap = s.cap) (hw : t.workers = s.workers) :
    CInv (release t hd) := by
  refine cinv_release hd (fun x => ?_) (hrefs ▸ hopen ▸ inv.open_iff) (hrefs ▸ hnext ▸ inv.fresh)
    (hq ▸ hcap ▸ inv.qcap) (hr ▸ hw ▸ inv.rcap)
  have h1 := inv.refs_eq x
  simp only [occ, curOcc, hc] at h1
  simp only [occ, curOcc, ht, hq, hr, hrefs]
  omega

theorem cinv_setPhase {s : St} (inv : CInv s) {i : Nat} {j : Job} {p : Phase} (p' : Phase) (log : List Event)
    (hr : s.running[i]? = some (j, p)) : CInv { s with running := s.running.set i (j, p'), log := log } := by
  refine ⟨fun x => ?_, inv.open_iff, inv.fresh, inv.qcap, by simpa using inv.rcap⟩
  have h1 := inv.refs_eq x
  have h2 := countP_set_add (fun jp : Job × Phase => decide (x = jp.1.h)) (j, p') (j, p) s.running i hr
  simp only [occ] at h1 h2 ⊢
  omega

/-- the cases that count: `push` adds a holder of the dispatcher's handle, and `dropOwn`, a returning job and `abort`
take one away, which is `cinv_release`; `take` and a phase change only move a holder from one list to another -/
theorem cinv_step {s s' : St} (l : Label) (inv : CInv s) (h : step s l = some s') : CInv s' := by
  cases l with
  | openNext =>
    obtain ⟨b, fs', hc, hf, rfl⟩ := step_openNext h
    have h0 := inv.fresh s.next (Nat.le_refl _)
    refine ⟨fun x => ?_, fun x => ?_, fun x hx => ?_, inv.qcap, inv.rcap⟩
    · have h1 := inv.refs_eq x
      simp only [occ, curOcc, hc] at h1 ⊢
      split
      · next e => subst e; omega
      · omega
    · have h1 := inv.open_iff x
      by_cases e : x = s.next
      · simp only [e, ↓reduceIte, Nat.lt_add_one]
      · simpa only [e, ↓reduceIte] using h1
    · have hx' : s.next < x := hx
      have h1 := inv.fresh x (Nat.le_of_lt hx')
      have : x ≠ s.next := Nat.ne_of_gt hx'
      simpa only [this, ↓reduceIte] using h1
  | push =>
    obtain ⟨hd, q, b, hc, hq, rfl⟩ := step_push h
    obtain ⟨hp, hlt⟩ := holder_pos inv (cur_occ_pos hc)
    refine ⟨fun x => ?_, fun x => ?_, fun x hx => ?_, ?_, inv.rcap⟩
    · have h1 := inv.refs_eq x
      simp only [occ, curOcc, hc, List.countP_append, List.countP_singleton, decide_eq_true_eq] at h1 ⊢
      split
      · next e => subst e; simp only [↓reduceIte] at h1; omega
      · next e => simp only [e, ↓reduceIte] at h1; omega
    · have h1 := inv.open_iff x
      by_cases e : x = hd
      · subst e; simp only [↓reduceIte, h1]; omega
      · simpa only [e, ↓reduceIte] using h1
    · have h1 := inv.fresh x hx
      have : x ≠ hd := Nat.ne_of_gt (Nat.lt_of_lt_of_le hlt hx)
      simpa only [this, ↓reduceIte] using h1
    · rw [List.length_append]; exact hq
  | dropOwn =>
    obtain ⟨hd, q, hc, rfl⟩ := step_dropOwn h
    exact cinv_dropCur inv hc rfl rfl rfl rfl rfl rfl rfl rfl
  | take =>
    obtain ⟨j, q, hq, hr, rfl⟩ := step_take h
    have := inv.qcap
    refine ⟨fun x => ?_, inv.open_iff, inv.fresh, ?_, ?_⟩
    · have h1 := inv.refs_eq x
      simp only [occ, hq, List.countP_cons, List.countP_append, List.countP_nil] at h1 ⊢
      omega
    · simp only [hq, List.length_cons] at this; exact Nat.le_of_succ_le this
    · rw [List.length_append]; exact hr
  | stepJob i =>
    obtain ⟨j, hr, rfl⟩ | ⟨j, hr, rfl⟩ | ⟨j, hr, rfl⟩ := step_stepJob h
    · exact cinv_setPhase inv .written _ hr
    · exact cinv_setPhase inv .reported _ hr
    · refine cinv_release j.h (fun x => ?_) inv.open_iff inv.fresh inv.qcap
        (Nat.le_trans (List.length_eraseIdx_le _ _) inv.rcap)
      have h1 := inv.refs_eq x
      have h2 := countP_eraseIdx_add (fun jp : Job × Phase => decide (x = jp.1.h)) (j, .reported) s.running i hr
      simp only [occ, decide_eq_true_eq] at h1 h2 ⊢
      omega
  | failJob i =>
    obtain ⟨j, hr, rfl⟩ := step_failJob h
    exact cinv_setPhase inv .reported _ hr
  | abort =>
    obtain ⟨ha, ⟨hd, q, left, hc, rfl⟩ | ⟨hc, rfl⟩⟩ := step_abort h
    · exact cinv_dropCur inv hc rfl rfl rfl rfl rfl rfl rfl rfl
    · exact ⟨inv.refs_eq, inv.open_iff, inv.fresh, inv.qcap, inv.rcap⟩

theorem cinv_reachable {files : List Nat} {cap workers : Nat} {fs : Bool} {s : St}
    (h : Reachable files cap workers fs s) : CInv s :=
  Lts.reach_ind (fun _ => rfl) run_cons CInv (cinv_init files cap workers fs) (fun _ l _ inv hs => cinv_step l inv hs) h

/-- one entry per holder of a clone; every open handle is among them, which bounds their number -/
def holders (s : St) : List Hid :=
  s.queue.map (·.h) ++ s.running.map (·.1.h) ++ (match s.cur with | some (h, _, _) => [h] | none => [])

theorem occ_pos_mem (s : St) (h : Hid) (hp : 0 < occ s h) : h ∈ holders s := by
  unfold holders
  simp only [List.mem_append, List.mem_map]
  rcases Nat.add_pos_iff_pos_or_pos.mp hp with hp | hp
  · rcases Nat.add_pos_iff_pos_or_pos.mp hp with hp | hp
    · obtain ⟨j, hj, e⟩ := List.countP_pos_iff.mp hp
      exact .inl (.inl ⟨j, hj, (of_decide_eq_true e).symm⟩)
    · obtain ⟨j, hj, e⟩ := List.countP_pos_iff.mp hp
      exact .inl (.inr ⟨j, hj, (of_decide_eq_true e).symm⟩)
  · right
    cases hc : s.cur with
    | none => rw [hc] at hp; cases hp
    | some p =>
      obtain ⟨h', q, b⟩ := p
      simp only [hc, curOcc] at hp ⊢
      split at hp
      · next e => simp [e]
      · cases hp

/-- also with failures, open handles stay bounded by capacity + workers + 1 -/
theorem open_bound (files : List Nat) (cap workers : Nat) (fs : Bool) (s : St)
    (h : Reachable files cap workers fs s) : openCount s ≤ cap + workers + 1 := by
  have inv := cinv_reachable h
  have hn : ((List.range s.next).filter fun h => s.isOpen h).Nodup :=
    List.Nodup.sublist List.filter_sublist List.nodup_range
  have hsub : ∀ a ∈ ((List.range s.next).filter fun h => s.isOpen h), a ∈ holders s := by
    intro a ha
    have := (List.mem_filter.mp ha).2
    exact occ_pos_mem s a (by rw [← inv.refs_eq]; exact (inv.open_iff a).mp this)
  have h1 := hn.length_le_of_subset hsub
  have h2 : (holders s).length ≤ s.cap + s.workers + 1 := by
    unfold holders
    have := inv.qcap; have := inv.rcap
    cases s.cur <;> simp <;> omega
  obtain ⟨hcap, hw, _⟩ := params_reachable h
  unfold openCount; omega

/-- the handle an event finalises or fsyncs -/
def finHid : Event → Option Hid
  | .finalise h | .fsync h => some h
  | _ => none

/-- the handle an event writes data of -/
def wrHid : Event → Option Hid
  | .write h _ => some h
  | _ => none

theorem wrHid_dropLog {fs : Bool} {hd : Hid} {e : Event} (he : e ∈ dropLog fs hd) : wrHid e = none := by
  rcases mem_dropLog.mp he with rfl | ⟨_, rfl⟩ | rfl <;> rfl

theorem finHid_dropLog {fs : Bool} {hd h : Hid} {e : Event} (he : e ∈ dropLog fs hd) (hf : finHid e = some h) :
    h = hd := by
  rcases mem_dropLog.mp he with rfl | ⟨_, rfl⟩ | rfl <;> cases hf <;> rfl

theorem wbf_cons_fin (e : Event) (h : Hid) (r : List Event) (he : finHid e = some h) :
    writesBeforeFinalise (e :: r) = true ↔ (∀ w ∈ r, wrHid w ≠ some h) ∧ writesBeforeFinalise r = true := by
  cases e <;> cases he
  all_goals
    simp only [writesBeforeFinalise, Bool.and_eq_true, Bool.not_eq_true', List.any_eq_false]
    refine and_congr_left fun _ => forall_congr' fun w => imp_congr_right fun _ => ?_
    cases w <;> simp [wrHid]

theorem wbf_cons_other (e : Event) (r : List Event) (he : finHid e = none) :
    writesBeforeFinalise (e :: r) = writesBeforeFinalise r := by
  cases e <;> first | rfl | cases he

theorem wbf_iff (l : List Event) : writesBeforeFinalise l = true ↔ Mon finHid wrHid l :=
  mon_iff_of writesBeforeFinalise rfl wbf_cons_fin wbf_cons_other l

/-- a finalised or fsynced handle has no holder left and lies below `next`, and the log satisfies the monitor -/
abbrev LInv (s : St) : Prop := Dead finHid wrHid s.refs s.next s.log

theorem linv_release {t : St} (linv : LInv t) (hd : Hid) (hpos : 0 < t.refs hd) (hlt : hd < t.next) :
    LInv (release t hd) := by
  rw [release_eq]
  refine linv.append_nw _ (fun w hw => ?_) (fun e he h hf => ?_) (fun h h0 hl => ?_)
  · split at hw
    · exact wrHid_dropLog hw
    · cases hw
  · split at he
    · next hz =>
      cases finHid_dropLog he hf
      exact ⟨by simpa only [↓reduceIte] using hz, hlt⟩
    · cases he
  · have : h ≠ hd := fun e => Nat.ne_of_gt hpos (e ▸ h0)
    exact ⟨by simpa only [this, ↓reduceIte] using h0, hl⟩

/-- the case that matters is the write of a running job: its handle has a holder, so it was not finalised before
(`holder_pos`); a release finalises a handle exactly when its last holder goes (`linv_release`); every other step
appends at most an event that neither writes nor finalises -/
theorem linv_step {s s' : St} (l : Label) (inv : CInv s) (linv : LInv s) (h : step s l = some s') : LInv s' := by
  cases l with
  | openNext =>
    obtain ⟨b, fs', hc, hf, rfl⟩ := step_openNext h
    refine linv.append_nw [.opened s.next] (by simp [wrHid]) (by simp [finHid]) (fun x h0 hl => ?_)
    have : x ≠ s.next := Nat.ne_of_lt hl
    exact ⟨by simpa only [this, ↓reduceIte] using h0, Nat.lt_succ_of_lt hl⟩
  | push =>
    obtain ⟨hd, q, b, hc, hq, rfl⟩ := step_push h
    obtain ⟨hp, hlt⟩ := holder_pos inv (cur_occ_pos hc)
    refine linv.mono fun x h0 hl => ⟨?_, hl⟩
    have : x ≠ hd := fun e => Nat.ne_of_gt hp (e ▸ h0)
    simpa only [this, ↓reduceIte] using h0
  | dropOwn =>
    obtain ⟨hd, q, hc, rfl⟩ := step_dropOwn h
    obtain ⟨hp, hlt⟩ := holder_pos inv (cur_occ_pos hc)
    exact linv_release (t := { s with cur := none }) linv hd hp hlt
  | take =>
    obtain ⟨j, q, hq, hr, rfl⟩ := step_take h
    exact linv
  | stepJob i =>
    obtain ⟨j, hr, rfl⟩ | ⟨j, hr, rfl⟩ | ⟨j, hr, rfl⟩ := step_stepJob h
    · obtain ⟨hp, hlt⟩ := holder_pos inv (running_occ_pos hr)
      refine linv.append [.write j.h j.blk] (mon_singleton _) ?_ (by simp [finHid])
        (fun _ h0 hl => ⟨h0, hl⟩)
      intro w hw x hx
      cases List.mem_singleton.mp hw
      cases hx
      exact hp
    · exact linv.snoc_plain (.copied j.h j.blk) rfl rfl
    · obtain ⟨hp, hlt⟩ := holder_pos inv (running_occ_pos hr)
      exact linv_release (t := { s with running := s.running.eraseIdx i }) linv j.h hp hlt
  | failJob i =>
    obtain ⟨j, hr, rfl⟩ := step_failJob h
    exact linv.snoc_plain (.failed j.h j.blk) rfl rfl
  | abort =>
    obtain ⟨ha, ⟨hd, q, left, hc, rfl⟩ | ⟨hc, rfl⟩⟩ := step_abort h
    · obtain ⟨hp, hlt⟩ := holder_pos inv (cur_occ_pos hc)
      exact linv_release
        (t := { s with cur := none, files := [], aborted := true, log := s.log ++ [.aborted] })
        (linv.snoc_plain .aborted rfl rfl) hd hp hlt
    · exact linv.snoc_plain .aborted rfl rfl

theorem linv_reachable {files : List Nat} {cap workers : Nat} {fs : Bool} {s : St}
    (h : Reachable files cap workers fs s) : CInv s ∧ LInv s :=
  Lts.reach_ind (fun _ => rfl) run_cons (fun s => CInv s ∧ LInv s)
    ⟨cinv_init files cap workers fs, ⟨by simp [init], trivial⟩⟩
    (fun _ l _ inv hs => ⟨cinv_step l inv.1 hs, linv_step l inv.1 inv.2 hs⟩) h

/-- also with failures, no write of a handle follows its finalisation or fsync -/
theorem writes_before_finalise (files : List Nat) (cap workers : Nat) (fs : Bool) (s : St)
    (h : Reachable files cap workers fs s) : writesBeforeFinalise s.log = true :=
  (wbf_iff s.log).mpr (linv_reachable h).2.mon

/-- every handle given out so far is still counted or already closed -/
def NoLeak (s : St) : Prop := ∀ h, h < s.next → 0 < s.refs h ∨ .closed h ∈ s.log

theorem noLeak_release {t : St} (hn : NoLeak t) (hd : Hid) : NoLeak (release t hd) := by
  rw [release_eq]
  intro h hl
  show 0 < (if h = hd then t.refs hd - 1 else t.refs h) ∨
    .closed h ∈ t.log ++ if t.refs hd - 1 = 0 then dropLog t.fsyncOn hd else []
  by_cases e : h = hd
  · subst e
    by_cases z : t.refs h - 1 = 0
    · exact .inr (by simp [z, mem_dropLog])
    · exact .inl (by simp only [↓reduceIte]; exact Nat.pos_of_ne_zero z)
  · simp only [e, ↓reduceIte]
    exact (hn h hl).imp_right (List.mem_append_left _)

theorem noLeak_log {s : St} (hn : NoLeak s) (es : List Event) : NoLeak { s with log := s.log ++ es } :=
  fun h hl => (hn h hl).imp_right (List.mem_append_left _)

/-- only a release can take the last count of a handle away, and then it logs `closed` (`noLeak_release`); every
other step keeps positive counts positive and only extends the log -/
theorem noLeak_step {s s' : St} (l : Label) (hn : NoLeak s) (h : step s l = some s') : NoLeak s' := by
  cases l with
  | openNext =>
    obtain ⟨b, fs', hc, hf, rfl⟩ := step_openNext h
    intro x hx
    by_cases e : x = s.next
    · exact .inl (by simp only [e, ↓reduceIte, Nat.lt_add_one])
    · simp only [e, ↓reduceIte]
      exact (hn x (Nat.lt_of_le_of_ne (Nat.le_of_lt_succ hx) e)).imp_right (List.mem_append_left _)
  | push =>
    obtain ⟨hd, q, b, hc, hq, rfl⟩ := step_push h
    intro x hx
    refine (hn x hx).imp_left fun h1 => ?_
    show 0 < (if x = hd then s.refs x + 1 else s.refs x)
    split
    · exact Nat.succ_pos _
    · exact h1
  | dropOwn =>
    obtain ⟨hd, q, hc, rfl⟩ := step_dropOwn h
    exact noLeak_release (t := { s with cur := none }) hn hd
  | take =>
    obtain ⟨j, q, hq, hr, rfl⟩ := step_take h
    exact hn
  | stepJob i =>
    obtain ⟨j, hr, rfl⟩ | ⟨j, hr, rfl⟩ | ⟨j, hr, rfl⟩ := step_stepJob h
    · exact noLeak_log hn _
    · exact noLeak_log hn _
    · exact noLeak_release (t := { s with running := s.running.eraseIdx i }) hn j.h
  | failJob i =>
    obtain ⟨j, hr, rfl⟩ := step_failJob h
    exact noLeak_log hn _
  | abort =>
    obtain ⟨ha, ⟨hd, q, left, hc, rfl⟩ | ⟨hc, rfl⟩⟩ := step_abort h
    · exact noLeak_release (t := { s with cur := none, files := [], aborted := true, log := s.log ++ [.aborted] })
        (noLeak_log hn [.aborted]) hd
    · exact noLeak_log hn _

/-- descriptors are not leaked by failures: in a final state every opened handle has been closed -/
theorem closed_of_final (files : List Nat) (cap workers : Nat) (fs : Bool) (s : St)
    (h : Reachable files cap workers fs s) (hf : final s = true) :
    ∀ hd, hd < s.next → .closed hd ∈ s.log := by
  have inv := cinv_reachable h
  have hn : NoLeak s := Lts.reach_ind (fun _ => rfl) run_cons NoLeak (fun h hl => absurd hl (Nat.not_lt_zero h))
    (fun _ l _ inv hs => noLeak_step l inv hs) h
  simp only [final, Bool.and_eq_true, List.isEmpty_iff, Option.isNone_iff_eq_none] at hf
  obtain ⟨⟨⟨hfl, hcur⟩, hq⟩, hr⟩ := hf
  intro hd hlt
  rcases hn hd hlt with h1 | h1
  · have := inv.refs_eq hd
    simp [occ, curOcc, hq, hr, hcur] at this
    exact absurd this (Nat.ne_of_gt h1)
  · exact h1

end Xcp.PoolF
