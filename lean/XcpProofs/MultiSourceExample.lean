import XcpProofs.EndToEnd
/-! # Non-vacuity of the multi-source theorem

A concrete instance satisfying every hypothesis of `multi_overlay` at once.  The root holds
`A` = { file `x` (content 1), link `l` → "x" }, `B` = { directory `sub` = { file `y` (content 2) }, fifo `p` } and
`D` = { `A` = { file `x` (content 9), file `old` (content 7) } }; the run is `xcp -r /A /B /D`: the target `/D/A`
exists and is merged into, the target `/D/B` is absent. -/
namespace Xcp.MultiSourceExample

open Xcp

def nA : Name := [65]
def nB : Name := [66]
def nD : Name := [68]
def nx : Name := [120]
def nl : Name := [108]
def nsub : Name := [115, 117, 98]
def ny : Name := [121]
def np : Name := [112]
def nold : Name := [111, 108, 100]

def subN : Node := .dir [(ny, .file 2)]
def nodeA : Node := .dir [(nx, .file 1), (nl, .link ⟨false, [.name nx], false⟩)]
def nodeB : Node := .dir [(nsub, subN), (np, .special .fifo 0)]
def nodeDA : Node := .dir [(nx, .file 9), (nold, .file 7)]
def nodeD : Node := .dir [(nA, nodeDA)]
def rootN : Node := .dir [(nA, nodeA), (nB, nodeB), (nD, nodeD)]
def fs0 : Fs := ⟨rootN, []⟩
def c0 : Cfg := {}
def dest0 : RPath := plainPath [nD]
def itemA : CopySrc := ⟨plainPath [nA], nA, nodeA⟩
def itemB : CopySrc := ⟨plainPath [nB], nB, nodeB⟩
def items0 : List CopySrc := [itemA, itemB]

/-- the expected result: `/D/A` has `x` with the new content, `old` kept, `l` added; `/D/B` is the `B` tree -/
def expectedRoot : Node :=
  .dir [(nA, nodeA), (nB, nodeB),
    (nD, .dir [(nA, .dir [(nx, .file 1), (nold, .file 7), (nl, .link ⟨false, [.name nx], false⟩)]), (nB, nodeB)])]

theorem fs0_wf : FsEq fs0 fs0 := by
  have h : rootN.Copyable 4 := by
    simp [rootN, nodeA, nodeB, nodeD, nodeDA, subN, Node.Copyable, Node.Copyable.CopyableL, nA, nB, nD, nx, nl, nsub,
      np, nold, ny]
  exact ⟨rfl, copyable_WF 4 _ h, copyable_WF 4 _ h, SameObs.refl _⟩

theorem getA : fs0.root.getAt [nA] = some nodeA := by rfl
theorem getB : fs0.root.getAt [nB] = some nodeB := by rfl
theorem getD : fs0.root.getAt [nD] = some nodeD := by rfl

theorem dest0_plain : PlainTarget fs0 dest0 :=
  ⟨rfl, rfl, (plainPath_namesOnly _).2.2, noLinkUpto_of_getAt (show fs0.root.getAt dest0.names = some nodeD from getD) rfl⟩

theorem itemA_plain : PlainTarget fs0 itemA.path :=
  ⟨rfl, rfl, (plainPath_namesOnly _).2.2, noLinkUpto_of_getAt (show fs0.root.getAt itemA.path.names = some nodeA from getA) rfl⟩

theorem itemB_plain : PlainTarget fs0 itemB.path :=
  ⟨rfl, rfl, (plainPath_namesOnly _).2.2, noLinkUpto_of_getAt (show fs0.root.getAt itemB.path.names = some nodeB from getB) rfl⟩

theorem nodeA_copyable : nodeA.Copyable 2 := by
  simp [nodeA, Node.Copyable, Node.Copyable.CopyableL, nx, nl]

theorem nodeB_copyable : nodeB.Copyable 2 := by
  simp [nodeB, subN, Node.Copyable, Node.Copyable.CopyableL, nsub, np]

theorem mem_items {e : CopySrc} (he : e ∈ items0) : e = itemA ∨ e = itemB := by
  simpa [items0] using he

theorem h_src : ∀ e ∈ items0, PlainTarget fs0 e.path ∧ e.path.fileName = some e.base ∧
    fs0.root.getAt e.path.names = some e.node ∧ e.node.Copyable 2 ∧ e.path.names.length + walkFuel < 256 := by
  intro e he
  rcases mem_items he with rfl | rfl
  · exact ⟨itemA_plain, rfl, getA, nodeA_copyable, by decide⟩
  · exact ⟨itemB_plain, rfl, getB, nodeB_copyable, by decide⟩

theorem h_unrel : ∀ e ∈ items0, ∀ e' ∈ items0,
    ¬ e.path.names <+: dest0.names ++ [e'.base] ∧ ¬ dest0.names ++ [e'.base] <+: e.path.names := by
  intro e he e' he'
  rcases mem_items he with rfl | rfl <;> rcases mem_items he' with rfl | rfl <;> decide

theorem h_compat : ∀ e ∈ items0, Compatible (fs0.root.getAt (dest0.names ++ [e.base])) e.node := by
  intro e he
  rcases mem_items he with rfl | rfl <;> decide

/-- every hypothesis of `multi_overlay` holds of a concrete, non-trivial instance (an existing target that is merged
into, and an absent one) -/
theorem multi_hypotheses_satisfiable :
    ∃ (fs : Fs) (c : Cfg) (dest : RPath) (items : List CopySrc) (fuel : Nat),
      c.dereference = false ∧ c.noClobber = false ∧ c.gitignore = false ∧ c.noTargetDir = false ∧
      FsEq fs fs ∧
      PlainTarget fs dest ∧ (∃ es, fs.root.getAt dest.names = some (.dir es)) ∧
      fuel < walkFuel ∧
      (∀ e ∈ items, PlainTarget fs e.path ∧ e.path.fileName = some e.base ∧
        fs.root.getAt e.path.names = some e.node ∧ e.node.Copyable fuel ∧ e.path.names.length + walkFuel < 256) ∧
      (items.map (·.base)).Nodup ∧
      (∀ e ∈ items, ∀ e' ∈ items,
        ¬ e.path.names <+: dest.names ++ [e'.base] ∧ ¬ dest.names ++ [e'.base] <+: e.path.names) ∧
      (∀ e ∈ items, Compatible (fs.root.getAt (dest.names ++ [e.base])) e.node) ∧
      dest.names.length + 1 + walkFuel < 256 ∧
      items.length = 2 :=
  ⟨fs0, c0, dest0, items0, 2, rfl, rfl, rfl, rfl, fs0_wf, dest0_plain, ⟨_, getD⟩, by decide, h_src, by decide,
    h_unrel, h_compat, by decide, rfl⟩

theorem overlayAll_instance : overlayAll fs0.root dest0.names items0 fs0.root = expectedRoot := by rfl

/-- the model itself, run on the instance, gives this very tree (here even with the same entry order) -/
example : (runSources fs0 c0 [] dest0 (items0.map (·.path))).exit = .ok := by rfl
example : (runSources fs0 c0 [] dest0 (items0.map (·.path))).fs.root = expectedRoot := by rfl

/-! The whole invocation `xcp -r /A /B /D`, validation included. -/

/-- `xcp -r /A /B /D` -/
def o0 : Opts := { cfg := { recursive := true }, paths := [plainPath [nA], plainPath [nB], plainPath [nD]] }

theorem l1run_instance (texts : GiTexts) :
    validate fs0 o0 = .ok ([plainPath [nA], plainPath [nB]], plainPath [nD]) ∧
    ∃ fs', L1run fs0 o0 texts = ⟨.ok, fs'⟩ ∧
      FsEq fs' { fs0 with root := overlayAll fs0.root dest0.names items0 fs0.root } :=
  l1run_overlay fs0 o0 texts dest0 items0 2 ⟨fs0_wf, ⟨_, getD⟩, by decide, h_src, by decide, h_unrel, by decide⟩
    rfl rfl rfl rfl rfl rfl (.inl ⟨rfl, rfl⟩) (by simp [items0]) dest0_plain h_compat

example : validate fs0 o0 = .ok ([plainPath [nA], plainPath [nB]], plainPath [nD]) :=
  (l1run_instance []).1

/-- the model itself, run on the instance -/
example : (L1run fs0 o0 []).exit = .ok := by rfl
example : (L1run fs0 o0 []).fs.root = expectedRoot := by rfl

end Xcp.MultiSourceExample
