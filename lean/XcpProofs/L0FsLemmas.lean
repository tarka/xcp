import XcpProofs.WalkerLemmas
import XcpProofs.L0Refine
/-! # The namespace model up to the order of directory entries

`Node` equality is structural, so two insertions of new names into one directory in different orders give
different trees.  Everything the model ever looks at is the *observation* of a path (`FsTree`): what kind of object
is there, and its payload unless it is a directory.  `FsEq` relates two file systems with the same observations (and
no duplicate names in any directory); every mutating call and every operation respects it.  The second half of the
file has the *local* versions used for commutation: an operation on a plain target only reads the observations at
the prefixes of its target and source, and only changes those at and below its target. -/

namespace Xcp

/-- the node an action writes is well-formed: the side condition under which `Act.run` respects `FsEq` -/
def Act.simple : Act → Prop
  | .set _ v => v.WF
  | _ => True

theorem Act.run_cong {f f' : Fs} (h : FsEq f f') (A : Act) (hA : A.simple) : ExRel FsEq (A.run f) (A.run f') := by
  obtain ⟨hc, hw, hw', ho⟩ := h
  cases A with
  | err e => exact rfl
  | keep => exact ⟨hc, hw, hw', ho⟩
  | set q v => exact ⟨hc, setAt_WF v hA q _ hw, setAt_WF v hA q _ hw', setAt_sameObs v q _ _ ho⟩
  | del q => exact ⟨hc, delAt_WF q _ hw, delAt_WF q _ hw', delAt_sameObs q _ _ hw hw' ho⟩

theorem createAct_simple (t : Bool) (c : Nat) (r : Res) (o : Option ONode) : (createAct t c r o).simple := by
  unfold createAct
  split <;> try trivial
  · exact WF_nondir _ rfl
  · split
    · trivial
    · exact WF_nondir _ rfl

theorem mkAct_simple (v : Node) (hv : v.WF) (r : Res) : (mkAct v r).simple := by
  cases r <;> first | trivial | exact hv

theorem unlinkAct_simple (r : Res) (o : Option ONode) : (unlinkAct r o).simple := by
  unfold unlinkAct
  split <;> try trivial
  split <;> trivial

theorem FsEq.resolve {f f' : Fs} (h : FsEq f f') (p : RPath) (fl : Bool) : f.resolve p fl = f'.resolve p fl :=
  resolve_obs h.1 h.2.2.2 p fl

theorem FsEq.resObs {f f' : Fs} (h : FsEq f f') (r : Res) : resObs f r = resObs f' r := by
  cases r with
  | found q => exact h.2.2.2 q
  | missing par n => rfl
  | err e => rfl

theorem FsEq.ostat {f f' : Fs} (h : FsEq f f') (p : RPath) : f.ostat p = f'.ostat p := by
  unfold Fs.ostat
  rw [h.resolve, h.resObs]

theorem FsEq.isDir {f f' : Fs} (h : FsEq f f') (p : RPath) : f.isDir p = f'.isDir p := by
  rw [isDir_ostat, isDir_ostat, h.ostat]

theorem createFile_cong {f f' : Fs} (h : FsEq f f') (p : RPath) (c : Nat) :
    ExRel FsEq (f.createFile p c) (f'.createFile p c) := by
  rw [createFile_eq, createFile_eq, ← h.resolve, ← h.resObs]
  exact Act.run_cong h _ (createAct_simple ..)

theorem make_cong {f f' : Fs} (h : FsEq f f') (p : RPath) {v : Node} (hv : v.WF) :
    ExRel FsEq (f.make p v) (f'.make p v) := by
  unfold Fs.make
  rw [← h.resolve]
  exact Act.run_cong h _ (mkAct_simple _ hv _)

theorem unlink_cong {f f' : Fs} (h : FsEq f f') (p : RPath) : ExRel FsEq (f.unlink p) (f'.unlink p) := by
  rw [unlink_eq, unlink_eq, ← h.resolve, ← h.resObs]
  exact Act.run_cong h _ (unlinkAct_simple ..)

theorem mkdirAll_cong {f f' : Fs} (h : FsEq f f') (p : RPath) : ExRel FsEq (f.mkdirAll p) (f'.mkdirAll p) :=
  mkdirAll_rel FsEq (fun p g g' hg => by rw [mkdir_eq, mkdir_eq]; exact make_cong hg p WF_emptyDir)
    (fun p g g' hg => hg.isDir p) h p

theorem ExRel.toOption {Q : Fs → Fs → Prop} {x y : Except Errno Fs} (h : ExRel Q x y) :
    L0.ORel Q x.toOption y.toOption := by
  cases x <;> cases y <;> simp only [ExRel] at h <;> simp only [Except.toOption, L0.ORel]
  exact h

theorem ExRel.imp {Q Q' : Fs → Fs → Prop} {x y : Except Errno Fs} (h : ExRel Q x y) (hq : ∀ a b, Q a b → Q' a b) :
    ExRel Q' x y := by
  cases x <;> cases y <;> simp only [ExRel] at h ⊢
  · exact h
  · exact hq _ _ h

/-- the path an operation reads from, if any -/
def srcOf : Op → Option RPath
  | .copy s _ => some s
  | .special s _ => some s
  | _ => none

theorem Fs.exists_congr {f f' : Fs} {p : RPath} (h : f.ostat p = f'.ostat p) : f.exists p = f'.exists p := by
  rw [exists_ostat, exists_ostat, h]

theorem isDir_congr {f f' : Fs} {p : RPath} (h : f.ostat p = f'.ostat p) : f.isDir p = f'.isDir p := by
  rw [isDir_ostat, isDir_ostat, h]

theorem contentOf_congr {f f' : Fs} {p : RPath} (h : f.ostat p = f'.ostat p) :
    f.contentOf p = f'.contentOf p := by
  rw [contentOf_ostat, contentOf_ostat, h]

theorem sameFile_congr {f f' : Fs} {a b : RPath} (ha : f.ostat a = f'.ostat a) (hb : f.ostat b = f'.ostat b) :
    f.sameFile a b = f'.sameFile a b := by
  rw [sameFile_ostat, sameFile_ostat, ha, hb]

theorem specialOf_congr {f f' : Fs} {p : RPath} (h : f.ostat p = f'.ostat p) :
    f.specialOf p = f'.specialOf p := by
  rw [specialOf_ostat, specialOf_ostat, h]

/-- two executions of one operation are related as soon as what the operation reads is the same and the calls it
makes are related -/
theorem execOp_rel (Q : Fs → Fs → Prop) (f f' : Fs) (c : Cfg) (op : Op)
    (hsrc : ∀ s, srcOf op = some s → f.ostat s = f'.ostat s)
    (htgt : ∀ t, opTarget op = some t → srcOf op ≠ none → f.ostat t = f'.ostat t)
    (hmkdir : ∀ t, op = .mkdir t → ExRel Q (f.mkdirAll t) (f'.mkdirAll t))
    (hcopy : ∀ s t content, op = .copy s t → ExRel Q (f.createFile t content) (f'.createFile t content))
    (hlink : ∀ tx t, op = .link tx t → ExRel Q (f.make t (.link tx)) (f'.make t (.link tx)))
    (hspecial : ∀ s t k d, op = .special s t → ExRel Q (f.make t (.special k d)) (f'.make t (.special k d)) ∧
      ExRel (fun g g' => ExRel Q (g.make t (.special k d)) (g'.make t (.special k d))) (f.unlink t) (f'.unlink t)) :
    L0.ORel Q (execOp f c op) (execOp f' c op) := by
  cases op with
  | fail => trivial
  | mkdir t => exact (hmkdir t rfl).toOption
  | link tx t =>
    rw [execOp, execOp, symlink_eq, symlink_eq]
    exact (hlink tx t rfl).toOption
  | copy s t =>
    have h1 := hsrc s rfl
    have h2 := htgt t rfl (fun h => by cases h)
    rw [execOp_copy_eq, execOp_copy_eq, ← contentOf_congr h1, ← Fs.exists_congr h2, ← sameFile_congr h1 h2]
    cases f.contentOf s with
    | none => trivial
    | some content =>
      rw [Option.bind_some, Option.bind_some]
      cases (f.exists t && f.sameFile s t) with
      | true => trivial
      | false => exact (hcopy s t content rfl).toOption
  | special s t =>
    have h1 := hsrc s rfl
    have h2 := htgt t rfl (fun h => by cases h)
    rw [execOp_special_eq, execOp_special_eq, ← specialOf_congr h1, ← Fs.exists_congr h2, ← sameFile_congr h1 h2]
    cases f.specialOf s with
    | none => trivial
    | some kd =>
      obtain ⟨k, d⟩ := kd
      obtain ⟨h3, h4⟩ := hspecial s t k d rfl
      dsimp only
      rw [mknod_eq, mknod_eq]
      cases f.exists t with
      | false => exact h3.toOption
      | true =>
        cases c.noClobber with
        | true => trivial
        | false =>
          cases f.sameFile s t with
          | true => trivial
          | false =>
            have : ∀ g : Fs, g.mknod t k d = g.make t (.special k d) := fun g => mknod_eq g t k d
            simp only [this]
            exact (ExRel.bind h4 fun _ _ h => h).toOption

theorem execOp_cong {f f' : Fs} (h : FsEq f f') (c : Cfg) (op : Op) :
    L0.ORel FsEq (execOp f c op) (execOp f' c op) :=
  execOp_rel FsEq f f' c op (fun s _ => h.ostat s) (fun t _ _ => h.ostat t)
    (fun t _ => mkdirAll_cong h t) (fun _ t content _ => createFile_cong h t content)
    (fun _ t _ => make_cong h t (WF_nondir _ rfl))
    (fun _ t _ _ _ => ⟨make_cong h t (WF_nondir _ rfl),
      (unlink_cong h t).imp fun _ _ hg => make_cong hg t (WF_nondir _ rfl)⟩)

/-- the two trees show the same at every prefix of `ns` -/
def AgreeUpto (r r' : Node) (ns : List Name) : Prop := ∀ p, p <+: ns → obsAt r' p = obsAt r p

theorem AgreeUpto.refl (r : Node) (ns : List Name) : AgreeUpto r r ns := fun _ _ => rfl

theorem AgreeUpto.prefix {r r' : Node} {ns p : List Name} (h : AgreeUpto r r' ns) (hp : p <+: ns) :
    AgreeUpto r r' p := fun q hq => h q (hq.trans hp)

theorem AgreeUpto.noLinkUpto {r r' : Node} {ns : List Name} (h : AgreeUpto r r' ns) (hl : NoLinkUpto r ns) :
    NoLinkUpto r' ns := by
  intro p hp tg hg
  rw [getAt_link_iff, h p hp, ← getAt_link_iff] at hg
  exact hl p hp tg hg

theorem AgreeUpto.noLinkAbove {r r' : Node} {ns : List Name} (h : AgreeUpto r r' ns) (hl : NoLinkAbove r ns) :
    NoLinkAbove r' ns := by
  intro p hp hne tg hg
  rw [getAt_link_iff, h p hp, ← getAt_link_iff] at hg
  exact hl p hp hne tg hg

theorem AgreeUpto.isDir {r r' : Node} {ns : List Name} (h : AgreeUpto r r' ns) : r'.isDir = r.isDir := by
  have := h [] List.nil_prefix
  simp only [obsAt_nil, Option.some.injEq] at this
  exact obs_isDir this

theorem resolve_local_nofollow (f f' : Fs) (ns : List Name) (hag : AgreeUpto f.root f'.root ns)
    (hl : NoLinkAbove f.root ns) : f'.resolve (plainPath ns) false = f.resolve (plainPath ns) false := by
  rw [resolve_plainPath, resolve_plainPath]
  refine walkPath_agree _ _ _ _ _ _ fun v hv => ?_
  obtain ⟨p, hp, hv⟩ := (walkPath_plain f.root false ns resolveFuel [] (fun p hp _ hne => hl p hp hne)
    (fun h => by cases h)).2 v hv
  rw [hv]
  exact hag p hp

theorem resolve_local_follow (f f' : Fs) (ns : List Name) (hag : AgreeUpto f.root f'.root ns)
    (hl : NoLinkUpto f.root ns) : f'.resolve (plainPath ns) true = f.resolve (plainPath ns) true := by
  rw [resolve_plainPath, resolve_plainPath]
  refine walkPath_agree _ _ _ _ _ _ fun v hv => ?_
  obtain ⟨p, hp, hv⟩ := (walkPath_plain f.root true ns resolveFuel [] (fun p hp _ _ => hl p hp)
    (fun _ => hl ns (List.prefix_refl _))).2 v hv
  rw [hv]
  exact hag p hp

theorem resObs_local (f f' : Fs) (ns : List Name) (hag : AgreeUpto f.root f'.root ns) (res : Res)
    (hres : PlainRes ns res) : resObs f' res = resObs f res := by
  rcases hres with h | ⟨par, n, h, _⟩ | ⟨e, h⟩
  · subst h; exact hag ns (List.prefix_refl _)
  · subst h; rfl
  · subst h; rfl

theorem ostat_local (f f' : Fs) (ns : List Name) (hag : AgreeUpto f.root f'.root ns) (hl : NoLinkUpto f.root ns) :
    f.ostat (plainPath ns) = f'.ostat (plainPath ns) := by
  unfold Fs.ostat
  rw [resolve_local_follow f f' ns hag hl, resObs_local f f' ns hag _ (plainRes_follow f ns hl)]

/-- `r1` is `r` with whatever was at `ns` replaced by an object without children, observed as `w` -/
structure ReplacedAt (r r1 : Node) (ns : List Name) (w : ONode) : Prop where
  out : ∀ q, ¬ ns <+: q → obsAt r1 q = obsAt r q
  here : obsAt r1 ns = some w
  below : ∀ s, s ≠ [] → obsAt r1 (ns ++ s) = none

theorem ReplacedAt.at_below {r r1 r' r1' : Node} {ns : List Name} {w : ONode} (h : ReplacedAt r r1 ns w)
    (h' : ReplacedAt r' r1' ns w) (q : List Name) (hq : ns <+: q) : obsAt r1 q = obsAt r1' q := by
  obtain ⟨s, hs⟩ := hq
  subst hs
  by_cases hs : s = []
  · subst hs; rw [List.append_nil, h.here, h'.here]
  · rw [h.below s hs, h'.below s hs]

theorem ReplacedAt.noLinkUpto {r r1 : Node} {p ns : List Name} {w : ONode} (h : ReplacedAt r r1 p w)
    (hw : ∀ t, w ≠ .link t) (hl : NoLinkUpto r ns) : NoLinkUpto r1 ns := by
  intro q hq tg hg
  rw [getAt_link_iff] at hg
  by_cases hc : p <+: q
  · obtain ⟨s, rfl⟩ := hc
    by_cases hs : s = []
    · subst hs
      rw [List.append_nil, h.here] at hg
      exact hw tg (Option.some.inj hg)
    · rw [h.below s hs] at hg; cases hg
  · rw [h.out q hc, ← getAt_link_iff] at hg
    exact hl q hq tg hg

theorem replacedAt_of_here {r r1 : Node} {ns : List Name} {v : Node} (hv : LeafLike v)
    (hout : ∀ q, ¬ ns <+: q → obsAt r1 q = obsAt r q) (hg : r1.getAt ns = some v) : ReplacedAt r r1 ns v.obs := by
  refine ⟨hout, by simp [obsAt, hg], ?_⟩
  intro s hs
  simp [obsAt, Node.getAt_append, hg, hv s hs]

theorem replacedAt_setAt (r : Node) (ns : List Name) (v : Node) (hp : ParentDir r ns)
    (hv : LeafLike v) : ReplacedAt r (r.setAt ns v) ns v.obs :=
  replacedAt_of_here hv (fun q h => setAt_out r ns q v h) (getAt_setAt_eff r ns v hp)

theorem replacedAt_keep (r : Node) (ns : List Name) (x : Node) (hx : r.getAt ns = some x) (hv : LeafLike x) :
    ReplacedAt r r ns x.obs :=
  replacedAt_of_here hv (fun _ _ => rfl) hx

theorem replacedAt_reset (r : Node) (ns : List Name) (v : Node) (hp : ParentDir r ns)
    (hv : LeafLike v) : ReplacedAt r ((r.delAt ns).setAt ns v) ns v.obs :=
  replacedAt_of_here hv (fun q h => (setAt_out _ ns q v h).trans (delAt_out r ns q h))
    (getAt_setAt_eff _ ns v (parentDir_delAt r ns hp))

theorem AgreeUpto.dir {r r' : Node} {p : List Name} {es : Entries} (h : AgreeUpto r r' p)
    (hg : r.getAt p = some (.dir es)) : ∃ es', r'.getAt p = some (.dir es') :=
  getAt_dir_of_obs ((h p (List.prefix_refl p)).trans (obsAt_dir hg))

theorem AgreeUpto.parentDir {r r' : Node} {ns : List Name} (h : AgreeUpto r r' ns) (hp : ParentDir r ns) :
    ParentDir r' ns := by
  obtain ⟨es, hes⟩ := hp
  exact (h.prefix (List.dropLast_prefix ns)).dir hes

/-- both results are the respective input with the object at `ns` replaced by the same thing -/
def LocalQ (W : ONode → Prop) (f f' : Fs) (ns : List Name) (g g' : Fs) : Prop :=
  ∃ w, W w ∧ ReplacedAt f.root g.root ns w ∧ ReplacedAt f'.root g'.root ns w

theorem localQ_set (W : ONode → Prop) (f f' : Fs) (ns : List Name) (v : Node)
    (hp : ParentDir f.root ns) (hag : AgreeUpto f.root f'.root ns) (hv : LeafLike v) (hW : W v.obs) :
    LocalQ W f f' ns { f with root := f.root.setAt ns v } { f' with root := f'.root.setAt ns v } :=
  ⟨v.obs, hW, replacedAt_setAt _ _ _ hp hv, replacedAt_setAt _ _ _ (hag.parentDir hp) hv⟩

theorem make_local (W : ONode → Prop) (f f' : Fs) (ns : List Name) (v : Node)
    (hroot : f.root.isDir = true) (hag : AgreeUpto f.root f'.root ns) (hl : NoLinkAbove f.root ns)
    (hv : LeafLike v) (hW : W v.obs) :
    ExRel (LocalQ W f f' ns) (f.make (plainPath ns) v) (f'.make (plainPath ns) v) := by
  unfold Fs.make
  rw [resolve_local_nofollow f f' ns hag hl]
  cases hr : f.resolve (plainPath ns) false with
  | found q => exact rfl
  | err e => exact rfl
  | missing par n =>
    obtain rfl := (hr ▸ plainRes_nofollow f ns hl).missing_eq
    exact localQ_set W f f' _ v (parentDir_of_missing f _ false par n hroot rfl hr) hag hv hW

theorem createFile_local (W : ONode → Prop) (f f' : Fs) (ns : List Name) (c : Nat) (hns : ns ≠ [])
    (hroot : f.root.isDir = true) (hag : AgreeUpto f.root f'.root ns) (hl : NoLinkUpto f.root ns)
    (hWf : W (.file c)) (hWs : ∀ k d, W (.special k d)) :
    ExRel (LocalQ W f f' ns) (f.createFile (plainPath ns) c) (f'.createFile (plainPath ns) c) := by
  have hres := plainRes_follow f ns hl
  rw [createFile_eq, createFile_eq, resolve_local_follow f f' ns hag hl, resObs_local f f' ns hag _ hres]
  cases hr : f.resolve (plainPath ns) true with
  | err e => exact rfl
  | missing par n =>
    obtain rfl := (hr ▸ hres).missing_eq
    exact localQ_set W f f' _ (.file c) (parentDir_of_missing f _ true par n hroot rfl hr) hag
      (leafLike_nondir _ rfl) hWf
  | found q =>
    obtain rfl := (hr ▸ hres).found_eq
    simp only [resObs, obsAt]
    cases hg : f.root.getAt q with
    | none => exact rfl
    | some x =>
      cases x with
      | dir es => exact rfl
      | link t => exact rfl
      | file k =>
        exact localQ_set W f f' q (.file c) (parentDir_of_getAt _ _ _ hns hg) hag (leafLike_nondir _ rfl) hWf
      | special k d =>
        have hg' : f'.root.getAt q = some (.special k d) := by
          apply getAt_of_obs_leaf rfl
          rw [hag q (List.prefix_refl _)]
          simp [obsAt, hg]
        exact ⟨_, hWs k d, replacedAt_keep _ _ _ hg (leafLike_nondir _ rfl),
          replacedAt_keep _ _ _ hg' (leafLike_nondir _ rfl)⟩

theorem agreeUpto_delAt (r r' : Node) (ns : List Name) (hns : ns ≠ []) (hw : r.WF) (hw' : r'.WF)
    (hag : AgreeUpto r r' ns) : AgreeUpto (r.delAt ns) (r'.delAt ns) ns := by
  intro p hp
  by_cases hpe : p = ns
  · subst hpe
    simp [obsAt, getAt_delAt_self p r hw hns, getAt_delAt_self p r' hw' hns]
  · have : ¬ ns <+: p := fun h => hpe (prefix_antisymm hp h)
    rw [delAt_out _ _ _ this, delAt_out _ _ _ this]
    exact hag p hp

theorem unlink_local (f f' : Fs) (ns : List Name) (hns : ns ≠ []) (hag : AgreeUpto f.root f'.root ns)
    (hl : NoLinkAbove f.root ns) :
    ExRel (fun g g' => g = { f with root := f.root.delAt ns } ∧ g' = { f' with root := f'.root.delAt ns })
      (f.unlink (plainPath ns)) (f'.unlink (plainPath ns)) := by
  have hres := plainRes_nofollow f ns hl
  rw [unlink_eq, unlink_eq, resolve_local_nofollow f f' ns hag hl, resObs_local f f' ns hag _ hres]
  cases hr : f.resolve (plainPath ns) false with
  | err e => exact rfl
  | missing par n => exact rfl
  | found q =>
    obtain rfl := (hr ▸ hres).found_eq
    have hne : q.isEmpty = false := by cases q <;> simp at hns ⊢
    cases ho : resObs f (.found q) with
    | none => exact rfl
    | some w => cases w <;> simp only [unlinkAct, hne, Act.run, ExRel, Bool.false_eq_true, if_false, and_self]

/-- what replaces the object at `ns` after it has been removed replaces the object that was there -/
theorem ReplacedAt.of_delAt {r r1 : Node} {ns : List Name} {w : ONode} (h : ReplacedAt (r.delAt ns) r1 ns w) :
    ReplacedAt r r1 ns w :=
  ⟨fun q hq => (h.out q hq).trans (delAt_out r ns q hq), h.here, h.below⟩

theorem unlink_mknod_local (W : ONode → Prop) (f f' : Fs) (ns : List Name) (k : FileKind) (d : Nat)
    (hns : ns ≠ []) (hroot : f.root.isDir = true) (hw : f.root.WF) (hw' : f'.root.WF)
    (hag : AgreeUpto f.root f'.root ns) (hl : NoLinkAbove f.root ns) (hW : W (.special k d)) :
    ExRel (fun g g' => ExRel (LocalQ W f f' ns) (g.make (plainPath ns) (.special k d))
        (g'.make (plainPath ns) (.special k d)))
      (f.unlink (plainPath ns)) (f'.unlink (plainPath ns)) := by
  refine (unlink_local f f' ns hns hag hl).imp ?_
  rintro g g' ⟨rfl, rfl⟩
  refine (make_local W _ _ ns (.special k d) (delAt_isDir _ _ hroot) (agreeUpto_delAt _ _ _ hns hw hw' hag)
    ((delAt_ancKept _ _).noLinkAbove hl) (leafLike_nondir _ rfl) hW).imp ?_
  rintro h h' ⟨w, hWw, R1, R2⟩
  exact ⟨w, hWw, R1.of_delAt, R2.of_delAt⟩

/-- the operation creates a symbolic link -/
def isLinkOp : Op → Bool
  | .link _ _ => true
  | _ => false

/-- what is needed of a state for the operation to act at the place its target spells: `ns` -/
structure OpPlain (f : Fs) (x : Op) (ns : List Name) : Prop where
  tgt : opTarget x = some (plainPath ns)
  above : NoLinkAbove f.root ns
  upto : isLinkOp x = false → NoLinkUpto f.root ns
  src : ∀ s, srcOf x = some s → s = plainPath s.names ∧ NoLinkUpto f.root s.names

/-- the written object is a link only if the operation creates links -/
def WOf (x : Op) (w : ONode) : Prop := isLinkOp x = false → ∀ t, w ≠ .link t

/-- an operation (not `mkdir`) on a plain target, run in two states that show the same at the prefixes of its
target and of its source: both fail, or both succeed, replacing the object at the target by the same thing -/
theorem execOp_local (f f' : Fs) (c : Cfg) (x : Op) (ns : List Name) (hp : OpPlain f x ns) (hns : ns ≠ [])
    (hroot : f.root.isDir = true) (hw : f.root.WF) (hw' : f'.root.WF) (hnm : ∀ t, x ≠ .mkdir t)
    (hag : AgreeUpto f.root f'.root ns) (hags : ∀ s, srcOf x = some s → AgreeUpto f.root f'.root s.names) :
    L0.ORel (LocalQ (WOf x) f f' ns) (execOp f c x) (execOp f' c x) := by
  apply execOp_rel
  · intro s hs
    obtain ⟨h1, h2⟩ := hp.src s hs
    rw [h1]
    exact ostat_local f f' _ (hags s hs) h2
  · intro t ht hsrc
    have hnl : isLinkOp x = false := by cases x <;> simp [srcOf] at hsrc <;> rfl
    have : t = plainPath ns := by
      have := hp.tgt; rw [ht] at this; exact Option.some.inj this
    rw [this]
    exact ostat_local f f' _ hag (hp.upto hnl)
  · intro t ht; exact absurd ht (hnm t)
  · intro s t content hx
    subst hx
    have : t = plainPath ns := Option.some.inj hp.tgt
    subst this
    exact createFile_local _ f f' ns content hns hroot hag (hp.upto rfl)
      (fun _ t h => by cases h) (fun k d _ t h => by cases h)
  · intro tx t hx
    subst hx
    have : t = plainPath ns := Option.some.inj hp.tgt
    subst this
    exact make_local _ f f' ns _ hroot hag hp.above (leafLike_nondir _ rfl) (fun h => by cases h)
  · intro s t k d hx
    subst hx
    have : t = plainPath ns := Option.some.inj hp.tgt
    subst this
    refine ⟨?_, ?_⟩
    · exact make_local _ f f' ns _ hroot hag hp.above (leafLike_nondir _ rfl) (fun _ t h => by cases h)
    · exact unlink_mknod_local _ f f' ns k d hns hroot hw hw' hag hp.above (fun _ t h => by cases h)

/-- what `create_dir_all ns` may change: places at prefixes of `ns` where nothing was now hold a directory -/
def MkFrame (r r1 : Node) (ns : List Name) : Prop :=
  ∀ q, obsAt r1 q = obsAt r q ∨ (q <+: ns ∧ obsAt r q = none ∧ obsAt r1 q = some .dir)

theorem MkFrame.refl (r : Node) (ns : List Name) : MkFrame r r ns := fun _ => .inl rfl

theorem MkFrame.trans {a b c : Node} {ns : List Name} (h1 : MkFrame a b ns) (h2 : MkFrame b c ns) :
    MkFrame a c ns := by
  intro q
  rcases h2 q with h | ⟨hq, hb, hc⟩
  · rcases h1 q with h' | ⟨hq', ha, hb'⟩
    · exact .inl (h.trans h')
    · exact .inr ⟨hq', ha, h.trans hb'⟩
  · rcases h1 q with h' | ⟨hq', ha, hb'⟩
    · exact .inr ⟨hq, h' ▸ hb, hc⟩
    · rw [hb] at hb'; cases hb'

theorem mkFrame_of_replaced {r r1 : Node} {p ns : List Name} (hp : p <+: ns) (hnone : r.getAt p = none)
    (h : ReplacedAt r r1 p .dir) : MkFrame r r1 ns := by
  intro q
  by_cases hq : p <+: q
  · obtain ⟨s, hs⟩ := hq
    subst hs
    by_cases hs : s = []
    · subst hs
      rw [List.append_nil]
      exact .inr ⟨hp, by simp [obsAt, hnone], h.here⟩
    · left
      rw [h.below s hs]
      simp [obsAt, getAt_append_none _ _ _ hnone]
  · exact .inl (h.out q hq)

/-- what the steps of `create_dir_all ns` maintain, in two states run side by side -/
structure MkInv (f f' : Fs) (ns : List Name) (g g' : Fs) : Prop where
  root : g.root.isDir = true
  nolink : NoLinkUpto g.root ns
  agree : AgreeUpto g.root g'.root ns
  frame : MkFrame f.root g.root ns
  frame' : MkFrame f'.root g'.root ns

theorem mkdir_step_local (f f' : Fs) (ns p : List Name) (hp : p <+: ns) (g g' : Fs) (h : MkInv f f' ns g g') :
    ExRel (MkInv f f' ns) (g.mkdir (plainPath p)) (g'.mkdir (plainPath p)) := by
  have hagp := h.agree.prefix hp
  have hlp : NoLinkAbove g.root p := (h.nolink.prefix hp).above
  rw [mkdir_eq, mkdir_eq]
  unfold Fs.make
  rw [resolve_local_nofollow g g' p hagp hlp]
  cases hr : g.resolve (plainPath p) false with
  | found q => exact rfl
  | err e => exact rfl
  | missing par n =>
    obtain rfl := (hr ▸ plainRes_nofollow g p hlp).missing_eq
    have hpd := parentDir_of_missing g _ false par n h.root rfl hr
    have hnone := resolve_missing _ _ _ _ _ hr
    have hpne : par ++ [n] ≠ [] := by simp
    have hnone' : g'.root.getAt (par ++ [n]) = none := by
      have := hagp _ (List.prefix_refl _)
      simp only [obsAt, hnone, Option.map_none, Option.map_eq_none_iff] at this
      exact this
    have R1 := replacedAt_setAt g.root _ (.dir []) hpd leafLike_emptyDir
    have R2 := replacedAt_setAt g'.root _ (.dir []) (hagp.parentDir hpd) leafLike_emptyDir
    refine ⟨?_, R1.noLinkUpto (fun t ht => by cases ht) h.nolink, ?_,
      h.frame.trans (mkFrame_of_replaced hp hnone R1), h.frame'.trans (mkFrame_of_replaced hp hnone' R2)⟩
    · cases hc : par ++ [n] with
      | nil => exact absurd hc hpne
      | cons a b => exact setAt_isDir _ _ _ _ h.root
    · intro q hq
      by_cases hc : par ++ [n] <+: q
      · exact (R1.at_below R2 q hc).symm
      · rw [R1.out q hc, R2.out q hc]; exact h.agree q hq

theorem execOp_mkdir_local (f f' : Fs) (c : Cfg) (ns : List Name) (hroot : f.root.isDir = true)
    (hl : NoLinkUpto f.root ns) (hag : AgreeUpto f.root f'.root ns) :
    L0.ORel (MkInv f f' ns) (execOp f c (.mkdir (plainPath ns))) (execOp f' c (.mkdir (plainPath ns))) :=
  have h0 : MkInv f f' ns f f' := ⟨hroot, hl, hag, MkFrame.refl _ _, MkFrame.refl _ _⟩
  (mkdirAll_plain_rel (MkInv f f' ns) ns (fun p hp g g' hq => mkdir_step_local f f' ns p hp g g' hq)
    (fun _ hp g g' hq => isDir_congr (ostat_local g g' _ (hq.agree.prefix hp) (hq.nolink.prefix hp))) h0 ns
    (List.prefix_refl ns)).toOption

theorem mkdirAll_of_dir (f : Fs) (ns : List Name) (es : Entries) (hlen : ns.length < 256)
    (hg : f.root.getAt ns = some (.dir es)) : f.mkdirAll (plainPath ns) = .ok f := by
  rcases List.eq_nil_or_concat ns with rfl | ⟨par, n, rfl⟩
  · rfl
  · rw [List.concat_eq_append] at hg hlen ⊢
    have hr := resolve_of_getAt f _ false _ (le_256_of_lt hlen) hg (fun h => by cases h)
    have hm : f.mkdir (plainPath (par ++ [n])) = .error .EEXIST := by rw [mkdir_eq, Fs.make, hr]; rfl
    have hd : f.isDir (plainPath (par ++ [n])) = true :=
      isDir_of_stat (stat_of_getAt f _ _ (le_256_of_lt hlen) hg rfl)
    rw [mkdirAll_plain_snoc, hm]
    simp [noParent, tryMk, hm, hd]

theorem replacedAt_comm {r ra rb rab rba : Node} {ta tb : List Name} {wa wb : ONode}
    (h1 : ¬ ta <+: tb) (h2 : ¬ tb <+: ta)
    (A1 : ReplacedAt r ra ta wa) (A2 : ReplacedAt rb rba ta wa)
    (B1 : ReplacedAt r rb tb wb) (B2 : ReplacedAt ra rab tb wb) : SameObs rab rba := by
  intro q
  by_cases hb : tb <+: q
  · have ha : ¬ ta <+: q := fun ha => not_both_prefix h1 h2 ha hb
    rw [A2.out q ha]
    exact B2.at_below B1 q hb
  · rw [B2.out q hb]
    by_cases ha : ta <+: q
    · exact A1.at_below A2 q ha
    · rw [A1.out q ha, A2.out q ha, B1.out q hb]

theorem mkFrame_comm {r ra rb rab rba : Node} {ta tb : List Name} {wa : ONode}
    (h1 : ¬ ta <+: tb)
    (A1 : ReplacedAt r ra ta wa) (A2 : ReplacedAt rb rba ta wa)
    (M1 : MkFrame r rb tb) (M2 : MkFrame ra rab tb) (hag : AgreeUpto rb rab tb) : SameObs rab rba := by
  intro q
  by_cases ha : ta <+: q
  · have hq : ¬ q <+: tb := fun hq => h1 (ha.trans hq)
    rcases M2 q with h | ⟨hq', _, _⟩
    · rw [h]; exact A1.at_below A2 q ha
    · exact absurd hq' hq
  · rw [A2.out q ha]
    by_cases hq : q <+: tb
    · exact hag q hq
    · rcases M2 q with h | ⟨hq', _, _⟩
      · rcases M1 q with h' | ⟨hq', _, _⟩
        · rw [h, h', A1.out q ha]
        · exact absurd hq' hq
      · exact absurd hq' hq

end Xcp
