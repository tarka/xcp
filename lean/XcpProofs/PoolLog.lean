import XcpModel.Pool
import XcpProofs.Monitor
/-! Logs over `Xcp.Pool.Event`, as the parblock model (`Xcp.Pool`) and the parfile model (`Xcp.Parfile`) write them:
what `Drop` of a handle appends (`dropLog`), the Boolean monitor `writesBeforeFinalise` as the proposition `Mon`,
and the shape of a whole log (`DriverLog`) with its two consequences: with the option every `closed` is preceded
by `finalise, fsync`; without it there is no `fsync` at all. -/
namespace Xcp.Pool

/-- what `Drop` of handle `h` appends to the log -/
def dropLog (fs : Bool) (h : Hid) : List Event :=
  [.finalise h] ++ (if fs then [.fsync h] else []) ++ [.closed h]

theorem mem_dropLog {fs : Bool} {h : Hid} {e : Event} :
    e ∈ dropLog fs h ↔ e = .finalise h ∨ (fs = true ∧ e = .fsync h) ∨ e = .closed h := by
  cases fs <;> simp [dropLog]

theorem count_write_dropLog (fs : Bool) (hd h : Hid) (blk : Nat) : (dropLog fs hd).count (.write h blk) = 0 :=
  List.count_eq_zero.mpr fun hm => by rcases mem_dropLog.mp hm with e | ⟨_, e⟩ | e <;> cases e

/-- the handle an event finalises or fsyncs -/
def finHid : Event → Option Hid
  | .finalise h | .fsync h => some h
  | _ => none

/-- the handle an event writes data of -/
def wrHid : Event → Option Hid
  | .write h _ => some h
  | _ => none

theorem wrHid_dropLog {fs : Bool} {hd : Hid} {e : Event} (he : e ∈ dropLog fs hd) : wrHid e = none := by
  rcases mem_dropLog.mp he with rfl | ⟨_, rfl⟩ | rfl <;> rfl

theorem finHid_dropLog {fs : Bool} {hd h : Hid} {e : Event} (he : e ∈ dropLog fs hd) (hf : finHid e = some h) :
    h = hd := by
  rcases mem_dropLog.mp he with rfl | ⟨_, rfl⟩ | rfl <;> cases hf <;> rfl

theorem wbf_cons_fin (e : Event) (h : Hid) (r : List Event) (he : finHid e = some h) :
    writesBeforeFinalise (e :: r) = true ↔ (∀ w ∈ r, wrHid w ≠ some h) ∧ writesBeforeFinalise r = true := by
  cases e <;> cases he
  all_goals
    simp only [writesBeforeFinalise, Bool.and_eq_true, Bool.not_eq_true', List.any_eq_false]
    refine and_congr_left fun _ => forall_congr' fun w => imp_congr_right fun _ => ?_
    cases w <;> simp [wrHid]

theorem wbf_cons_other (e : Event) (r : List Event) (he : finHid e = none) :
    writesBeforeFinalise (e :: r) = writesBeforeFinalise r := by
  cases e <;> first | rfl | cases he

theorem wbf_iff (l : List Event) : writesBeforeFinalise l = true ↔ Mon finHid wrHid l :=
  mon_iff_of writesBeforeFinalise rfl wbf_cons_fin wbf_cons_other l

theorem wbf_no_write_after (a b : List Event) (e : Event) (h : Hid) (he : finHid e = some h)
    (hw : writesBeforeFinalise (a ++ e :: b) = true) : ∀ blk, .write h blk ∉ b :=
  fun _ hm => ((mon_append a _).mp ((wbf_iff _).mp hw)).2.1.1 h he _ hm rfl

theorem wbf_no_write_after_finalise (a b : List Event) (h : Hid)
    (hw : writesBeforeFinalise (a ++ .finalise h :: b) = true) : ∀ blk, .write h blk ∉ b :=
  wbf_no_write_after a b _ h rfl hw

/-- every `closed hd` in the log is immediately preceded by `finalise hd, fsync hd` -/
def ClosedOk (l : List Event) : Prop :=
  ∀ hd pre post, l = pre ++ .closed hd :: post → ∃ pre', pre = pre' ++ [.finalise hd, .fsync hd]

theorem closedOk_snoc {l : List Event} {e : Event} (hl : ClosedOk l) (he : ∀ hd, e ≠ .closed hd) :
    ClosedOk (l ++ [e]) := by
  intro hd pre post heq
  rcases List.eq_nil_or_concat post with rfl | ⟨post', x, rfl⟩
  · have := List.append_inj_right' heq (by simp)
    simp at this; exact absurd this (he hd)
  · have heq' : l ++ [e] = (pre ++ .closed hd :: post') ++ [x] := by simpa using heq
    exact hl hd pre post' (List.append_inj_left' heq' (by simp))

theorem closedOk_close {l : List Event} (hl : ClosedOk l) (h : Hid) : ClosedOk (l ++ dropLog true h) := by
  have h2 : ClosedOk (l ++ [.finalise h] ++ [.fsync h]) := closedOk_snoc (closedOk_snoc hl (by simp)) (by simp)
  intro hd pre post heq
  have heq : l ++ [.finalise h] ++ [.fsync h] ++ [.closed h] = pre ++ .closed hd :: post := by
    simpa [dropLog] using heq
  rcases List.eq_nil_or_concat post with rfl | ⟨post', x, rfl⟩
  · have h3 := List.append_inj_right' heq (by simp)
    have h4 := List.append_inj_left' heq (by simp)
    simp at h3; subst h3
    exact ⟨l, by simpa using h4.symm⟩
  · have heq' : l ++ [.finalise h] ++ [.fsync h] ++ [.closed h] = (pre ++ .closed hd :: post') ++ [x] := by
      simpa using heq
    exact h2 hd pre post' (List.append_inj_left' heq' (by simp))

/-- events that are no part of a handle's finalisation -/
def Event.plain : Event → Bool
  | .opened _ | .write _ _ | .copied _ _ => true
  | _ => false

/-- the logs both drivers write when the option is `fs`: single events outside a finalisation, and whole
finalisations -/
inductive DriverLog (fs : Bool) : List Event → Prop
  | nil : DriverLog fs []
  | plain {l : List Event} {e : Event} : DriverLog fs l → e.plain = true → DriverLog fs (l ++ [e])
  | drop {l : List Event} (h : Hid) : DriverLog fs l → DriverLog fs (l ++ dropLog fs h)

theorem DriverLog.closedOk {l : List Event} (h : DriverLog true l) : ClosedOk l := by
  induction h with
  | nil => intro hd pre post heq; simp at heq
  | plain _ hp ih => exact closedOk_snoc ih fun hd he => by subst he; cases hp
  | drop hd _ ih => exact closedOk_close ih hd

theorem DriverLog.no_fsync {l : List Event} (h : DriverLog false l) (hd : Hid) : .fsync hd ∉ l := by
  induction h with
  | nil => simp
  | plain _ hp ih =>
    intro hm
    rcases List.mem_append.mp hm with hm | hm
    · exact ih hm
    · cases List.mem_singleton.mp hm; cases hp
  | drop h' _ ih =>
    intro hm
    rcases List.mem_append.mp hm with hm | hm
    · exact ih hm
    · simpa using mem_dropLog.mp hm

/-- a log that satisfies the monitor and in which every `closed` is immediately preceded by `finalise, fsync`:
for a closed handle the log splits at its fsync, every write of the handle before it and none after -/
theorem fsync_after_writes_of_closed (l : List Event) (hd : Hid) (hw : writesBeforeFinalise l = true)
    (hc : ClosedOk l) (hm : .closed hd ∈ l) :
    ∃ pre post, l = pre ++ .fsync hd :: post ∧ (∀ blk, .write hd blk ∈ l → .write hd blk ∈ pre) ∧
      (∀ blk, .write hd blk ∉ post) := by
  obtain ⟨p, q, rfl⟩ := List.append_of_mem hm
  obtain ⟨p', rfl⟩ := hc hd p q rfl
  have heq : p' ++ [.finalise hd, .fsync hd] ++ .closed hd :: q = (p' ++ [.finalise hd]) ++ .fsync hd :: (.closed hd :: q) := by
    simp
  rw [heq] at hw ⊢
  have hno := wbf_no_write_after _ _ _ hd rfl hw
  refine ⟨p' ++ [.finalise hd], .closed hd :: q, rfl, ?_, hno⟩
  intro blk hmem
  rw [List.mem_append, List.mem_cons] at hmem
  rcases hmem with h1 | h1 | h1
  · exact h1
  · cases h1
  · exact absurd h1 (hno blk)

end Xcp.Pool
