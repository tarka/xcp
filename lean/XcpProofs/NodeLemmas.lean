import XcpModel.Node
/-! `specialProgram` unfolded by the kind of the source. -/
namespace Xcp

theorem specialProgram_special {src : NodeSpec} (hk : classifyKind src.kind = .special) (umask : Nat)
    (nc ex rm : Bool) :
    specialProgram src umask nc ex rm =
      if ex then
        if nc then ([.probeDest], none)
        else if rm then ([.probeDest, .unlink, .mknod (mknodResult src umask)], some (mknodResult src umask))
        else ([.probeDest, .unlink], none)
      else ([.probeDest, .mknod (mknodResult src umask)], some (mknodResult src umask)) := by
  unfold specialProgram
  rw [hk]

theorem specialProgram_other {src : NodeSpec} (hk : classifyKind src.kind ≠ .special) (umask : Nat)
    (nc ex rm : Bool) : specialProgram src umask nc ex rm = ([], none) := by
  unfold specialProgram
  split
  · exact absurd ‹_› hk
  · rfl

end Xcp
