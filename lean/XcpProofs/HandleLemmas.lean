import XcpModel.Handle
import XcpProofs.BackupLemmas
/-! # Lemmas about the `CopyHandle` model

Each model function gets the equation through which proofs use it without unfolding it: `xaGet`/`xaSet` are
`Dir.get`/`Dir.set`, `finalise` has a closed form, `fileProgram` is `create, truncate, tailOf`; and `monitorFile`
accepts every call list of that shape. -/
namespace Xcp

theorem xaGet_eq_get (l : List (Name × Bytes)) (k : Name) : xaGet l k = Dir.get l k := by
  induction l with
  | nil => rfl
  | cons a r ih => simp only [xaGet, Dir.get, ih]

theorem xaSet_eq_set (l : List (Name × Bytes)) (k : Name) (v : Bytes) : xaSet l k v = Dir.set l k v := rfl

theorem xaGet_xaSet (l : List (Name × Bytes)) (k k' : Name) (v : Bytes) :
    xaGet (xaSet l k v) k' = if k = k' then some v else xaGet l k' := by
  rw [xaGet_eq_get, xaGet_eq_get, xaSet_eq_set, Dir.get_set]
  by_cases h : k = k'
  · simp [h]
  · simp [h, Ne.symm h]

theorem xaGet_append_single (l : List (Name × Bytes)) (a : Name × Bytes) (k : Name) :
    xaGet (l ++ [a]) k =
      match xaGet l k with
      | some v => some v
      | none => if a.1 = k then some a.2 else none := by
  induction l with
  | nil => obtain ⟨a1, a2⟩ := a; simp [xaGet]
  | cons b t iht =>
    obtain ⟨b1, b2⟩ := b
    by_cases hb : b1 = k <;> simp [xaGet, hb, iht]

theorem xaGet_foldl (sx : List (Name × Bytes)) (acc : List (Name × Bytes)) (k : Name) :
    xaGet (sx.foldl (fun acc kv => xaSet acc kv.1 kv.2) acc) k =
      match xaGet sx.reverse k with
      | some v => some v
      | none => xaGet acc k := by
  induction sx generalizing acc with
  | nil => simp [xaGet]
  | cons a r ih =>
    simp only [List.foldl_cons, List.reverse_cons]
    rw [ih, xaGet_append_single, xaGet_xaSet]
    by_cases ha : a.1 = k <;> cases xaGet r.reverse k <;> simp [ha]

/-- each field is decided by one option, except the mode under `--no-perms`, which `chown` may still touch -/
theorem finalise_eq (c : Cfg) (src d : FMeta) (fx : Nat → Nat) :
    finalise c src fx d =
      { mode := if c.noPerms then (if c.ownership then fx d.mode else d.mode) else src.mode
        uid := if c.ownership then src.uid else d.uid
        gid := if c.ownership then src.gid else d.gid
        mtime := if c.noTimestamps then d.mtime else src.mtime
        xattrs := if c.noPerms then d.xattrs else src.xattrs.foldl (fun acc kv => xaSet acc kv.1 kv.2) d.xattrs } := by
  have hf : ∀ m, (if c.fsync then [FStep.fsync] else []).foldl (applyFStep src fx) m = m := by
    intro m
    cases c.fsync <;> rfl
  unfold finalise finaliseSteps
  rw [List.foldl_append, hf]
  cases c.ownership <;> cases c.noPerms <;> cases c.noTimestamps <;> rfl

theorem classifyClone_ok_true (ans : CloneAns) : classifyClone ans = .ok true ↔ ans = .ok := by
  unfold classifyClone
  split <;> simp

theorem classifyClone_unsupported (e : Errno) :
    classifyClone (.err e) = .ok false ↔ e = .EOPNOTSUPP ∨ e = .EINVAL ∨ e = .EXDEV ∨ e = .ETXTBSY := by
  unfold classifyClone
  split <;> simp_all

theorem tryReflink_auto_unsupported (linux : Bool) (e : Errno) (hc : classifyClone (.err e) = .ok false) :
    (tryReflink .auto linux (.err e)).2 = .copy := by
  cases linux <;> simp [tryReflink, hc]

/-- the calls after `create, truncate`, given what `tryReflink` returned: the clone request if one is issued,
the data calls if the outcome is a data copy, the finalisation -/
def tailOf (c : Cfg) (r : Bool × ReflinkOut) (nd : Nat) : List FCall :=
  (match r.1 with | true => [FCall.clone (r.2 = .cloned)] | false => []) ++
    List.replicate (match r.2 with | .copy => nd | _ => 0) FCall.data ++ (finaliseSteps c).map FCall.fin

theorem fileProgram_eq (c : Cfg) (len : Nat) (ans : CloneAns) (nd : Nat) (ok : Bool) :
    fileProgram c len ans nd ok =
      (.create :: .truncate len :: tailOf c (tryReflink c.reflink c.linux ans) nd,
       match (tryReflink c.reflink c.linux ans).2 with | .cloned => true | .failed => false | .copy => ok) := by
  unfold fileProgram tailOf
  generalize tryReflink c.reflink c.linux ans = r
  obtain ⟨b, o⟩ := r
  cases o <;> cases b <;> rfl

theorem mem_tailOf {c : Cfg} {r : Bool × ReflinkOut} {nd : Nat} {x : FCall} (h : x ∈ tailOf c r nd) :
    (r.1 = true ∧ x = .clone (r.2 = .cloned)) ∨ (r.2 = .copy ∧ x = .data) ∨ ∃ s, x = .fin s := by
  obtain ⟨b, o⟩ := r
  simp only [tailOf, List.mem_append, List.mem_replicate, List.mem_map] at h
  rcases h with (h | ⟨h, rfl⟩) | ⟨s, _, rfl⟩
  · cases b
    · cases h
    · exact .inl ⟨rfl, List.mem_singleton.1 h⟩
  · cases o
    · exact absurd rfl h
    · exact .inr (.inl ⟨rfl, rfl⟩)
    · exact absurd rfl h
  · exact .inr (.inr ⟨s, rfl⟩)

theorem mem_fileProgram {c : Cfg} {len : Nat} {ans : CloneAns} {nd : Nat} {ok : Bool} {x : FCall}
    (h : x ∈ (fileProgram c len ans nd ok).1) :
    x = .create ∨ x = .truncate len ∨
      ((tryReflink c.reflink c.linux ans).1 = true ∧ x = .clone ((tryReflink c.reflink c.linux ans).2 = .cloned)) ∨
      ((tryReflink c.reflink c.linux ans).2 = .copy ∧ x = .data) ∨ ∃ s, x = .fin s := by
  rw [fileProgram_eq] at h
  rcases List.mem_cons.1 h with rfl | h
  · exact .inl rfl
  rcases List.mem_cons.1 h with rfl | h
  · exact .inr (.inl rfl)
  exact .inr (.inr (mem_tailOf h))

/-- projection used by `monitorFile` -/
def FCall.finStep : FCall → Option FStep
  | .fin s => some s
  | _ => none

/-- `monitorFile` on a list that starts as it must, with the projection named -/
theorem monitorFile_cons (c : Cfg) (len n : Nat) (rest : List FCall) :
    monitorFile c len (.create :: .truncate n :: rest) =
      (decide (n = len)
      && decide ((rest.filter isClone).length ≤ 1)
      && (c.reflink != .never || (rest.filter isClone).isEmpty)
      && (match rest with
          | .clone ok :: r2 => !(ok && r2.any isData) && !(r2.any isClone)
          | _ => (rest.filter isClone).isEmpty)
      && (rest.dropWhile (fun x => !isFin x)).all isFin
      && (dedupX (rest.filterMap FCall.finStep) == dedupX (finaliseSteps c))) := rfl

theorem filter_isClone_tail (nd : Nat) (fins : List FStep) :
    (List.replicate nd FCall.data ++ fins.map FCall.fin).filter isClone = [] := by
  refine List.filter_eq_nil_iff.2 (fun x hx => ?_)
  rcases List.mem_append.1 hx with h | h
  · rw [List.eq_of_mem_replicate h]
    exact Bool.false_ne_true
  · obtain ⟨s, _, rfl⟩ := List.mem_map.1 h
    exact Bool.false_ne_true

theorem any_isClone_tail (nd : Nat) (fins : List FStep) :
    (List.replicate nd FCall.data ++ fins.map FCall.fin).any isClone = false :=
  List.any_eq_false.2 (List.filter_eq_nil_iff.1 (filter_isClone_tail nd fins))

theorem any_isData_fins (fins : List FStep) : (fins.map FCall.fin).any isData = false := by
  refine List.any_eq_false.2 (fun x hx => ?_)
  obtain ⟨s, _, rfl⟩ := List.mem_map.1 hx
  exact Bool.false_ne_true

theorem filter_isData_tail (nd : Nat) (fins : List FStep) :
    ((List.replicate nd FCall.data ++ fins.map FCall.fin).filter isData).length = nd := by
  rw [List.filter_append, List.filter_replicate, if_pos (show isData FCall.data = true from rfl),
    List.filter_eq_nil_iff.2 (List.any_eq_false.1 (any_isData_fins fins)), List.append_nil, List.length_replicate]

theorem all_isFin_dropWhile_tail (nd : Nat) (fins : List FStep) :
    ((List.replicate nd FCall.data ++ fins.map FCall.fin).dropWhile (fun x => !isFin x)).all isFin = true := by
  rw [List.dropWhile_append_of_pos (fun a ha => by rw [List.eq_of_mem_replicate ha]; rfl)]
  have hd : (fins.map FCall.fin).dropWhile (fun x => !isFin x) = fins.map FCall.fin := by
    cases fins <;> rfl
  rw [hd]
  refine List.all_eq_true.2 (fun x hx => ?_)
  obtain ⟨s, _, rfl⟩ := List.mem_map.1 hx
  rfl

theorem filterMap_tail (nd : Nat) (fins : List FStep) :
    (List.replicate nd FCall.data ++ fins.map FCall.fin).filterMap FCall.finStep = fins := by
  rw [List.filterMap_append, List.filterMap_replicate_of_none rfl, List.nil_append, List.filterMap_map]
  exact List.filterMap_some

theorem monitor_noclone (c : Cfg) (len : Nat) (rest : List FCall)
    (h1 : rest.filter isClone = [])
    (h2 : (rest.dropWhile (fun x => !isFin x)).all isFin = true)
    (h3 : dedupX (rest.filterMap FCall.finStep) = dedupX (finaliseSteps c)) :
    monitorFile c len (.create :: .truncate len :: rest) = true := by
  rw [monitorFile_cons, h1, h2, h3]
  split
  · simp [isClone] at h1
  · simp

theorem monitor_clone (c : Cfg) (len : Nat) (b : Bool) (r2 : List FCall)
    (hne : c.reflink ≠ .never)
    (h1 : r2.filter isClone = [])
    (hd : b = true → r2.any isData = false)
    (h2 : (r2.dropWhile (fun x => !isFin x)).all isFin = true)
    (h3 : dedupX (r2.filterMap FCall.finStep) = dedupX (finaliseSteps c)) :
    monitorFile c len (.create :: .truncate len :: .clone b :: r2) = true := by
  have hany : r2.any isClone = false := List.any_eq_false.2 (List.filter_eq_nil_iff.1 h1)
  have hdd : (b && r2.any isData) = false := by
    cases b
    · rfl
    · simp [hd rfl]
  have hf : (FCall.clone b :: r2).filter isClone = [FCall.clone b] := by
    simp [List.filter_cons, isClone, h1]
  have hdw : (FCall.clone b :: r2).dropWhile (fun x => !isFin x) = r2.dropWhile (fun x => !isFin x) := rfl
  have hfm : (FCall.clone b :: r2).filterMap FCall.finStep = r2.filterMap FCall.finStep := rfl
  rw [monitorFile_cons, hf, hdw, hfm, h2, h3]
  simp [hany, hdd, hne]

/-- `monitorFile` accepts `create, truncate len, [clone b]?, data × nd, finalise…` provided the clone is
absent under `never` and a successful clone is followed by no data call. -/
theorem monitor_shape (c : Cfg) (len : Nat) (cl : Option Bool) (nd : Nat)
    (hnever : c.reflink = .never → cl = none)
    (hok : cl = some true → nd = 0) :
    monitorFile c len
      (.create :: .truncate len ::
        ((match cl with | none => [] | some b => [FCall.clone b]) ++
          List.replicate nd FCall.data ++ (finaliseSteps c).map FCall.fin)) = true := by
  cases cl with
  | none =>
    simp only [List.nil_append]
    apply monitor_noclone
    · exact filter_isClone_tail _ _
    · exact all_isFin_dropWhile_tail _ _
    · rw [filterMap_tail]
  | some b =>
    simp only [List.cons_append, List.nil_append]
    apply monitor_clone
    · intro hn; cases hnever hn
    · exact filter_isClone_tail _ _
    · intro hb
      subst hb
      rw [hok rfl]
      simpa using any_isData_fins _
    · exact all_isFin_dropWhile_tail _ _
    · rw [filterMap_tail]

theorem no_data_after_fin (A F : List FCall) (hA : ∀ x ∈ A, isFin x = false) (hF : ∀ x ∈ F, isData x = false) :
    ∀ (pre post : List FCall) (st : FStep), A ++ F = pre ++ .fin st :: post → ∀ x ∈ post, isData x = false := by
  induction A with
  | nil =>
    intro pre post st heq x hx
    apply hF
    rw [List.nil_append] at heq; rw [heq]; simp [hx]
  | cons a A ih =>
    intro pre post st heq x hx
    cases pre with
    | nil =>
      simp only [List.cons_append, List.nil_append, List.cons.injEq] at heq
      have := hA a (by simp)
      rw [heq.1] at this; simp [isFin] at this
    | cons p pre =>
      simp only [List.cons_append, List.cons.injEq] at heq
      exact ih (fun y hy => hA y (by simp [hy])) pre post st heq.2 x hx

theorem fileProgram_shape (c : Cfg) (len : Nat) (ans : CloneAns) (nd : Nat) (ok : Bool) :
    ∃ pre nd', (fileProgram c len ans nd ok).1 = (pre ++ List.replicate nd' FCall.data) ++ (finaliseSteps c).map FCall.fin ∧
      ∀ x ∈ pre ++ List.replicate nd' FCall.data, isFin x = false := by
  rw [fileProgram_eq]
  generalize tryReflink c.reflink c.linux ans = r
  obtain ⟨b, o⟩ := r
  refine ⟨.create :: .truncate len :: (match b with | true => [FCall.clone (o = .cloned)] | false => []),
    (match o with | .copy => nd | _ => 0), rfl, fun x hx => ?_⟩
  rcases List.mem_cons.1 hx with rfl | hx
  · rfl
  rcases List.mem_cons.1 hx with rfl | hx
  · rfl
  rcases List.mem_append.1 hx with hx | hx
  · cases b
    · cases hx
    · rw [List.mem_singleton.1 hx]
      rfl
  · rw [List.eq_of_mem_replicate hx]
    rfl

theorem finaliseSteps_fsync_last (c : Cfg) (h : c.fsync = true) :
    ∃ l, finaliseSteps c = l ++ [.fsync] := by
  unfold finaliseSteps
  rw [h]
  exact ⟨_, rfl⟩

end Xcp
