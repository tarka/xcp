import XcpModel.L0
import XcpProofs.Lts
import XcpProofs.ListAux
/-! Every complete, failure-free concurrent execution ends in the state of the sequential one — up to a relation
`E` on file systems (a partial equivalence that `execOp` respects; for the namespace model: "the same tree up to
the order of directory entries") — given a "goodness" predicate for queued operations that is established when an
operation is handed over, preserved by the other operations, and under which a queued operation commutes with any
other operation.  With `E := Eq` this is literal equality of the final states. -/

namespace Xcp.L0

open Xcp

/-- `E` lifted to partial results: both fail, or both succeed with related results -/
def ORel (E : Fs → Fs → Prop) : Option Fs → Option Fs → Prop
  | none, none => True
  | some f, some g => E f g
  | _, _ => False

/-- What is needed of queued operations. `E`: a partial equivalence on file systems (`E fs fs` = "`fs` is
well-formed") which every operation respects. `Good fs a`: in state `fs` the queued operation `a` is insensitive
to being delayed. -/
structure Commutes (c : Cfg) (E : Fs → Fs → Prop) (Good : Fs → Op → Prop) (R : Op → Op → Prop) : Prop where
  symm : ∀ f g, E f g → E g f
  trans : ∀ f g h, E f g → E g h → E f h
  /-- every operation respects `E` -/
  cong : ∀ f g op, E f g → ORel E (execOp f c op) (execOp g c op)
  /-- preserved by executing any other (independent) operation -/
  preserved : ∀ fs fs' a b, E fs fs → Good fs a → R a b → execOp fs c b = some fs' → Good fs' a
  /-- a good queued operation commutes with any other (independent) operation, as partial functions, up to `E` -/
  comm : ∀ fs a b, E fs fs → Good fs a → R a b → isSync a = false →
    ORel E ((execOp fs c a).bind (fun f1 => execOp f1 c b)) ((execOp fs c b).bind (fun f2 => execOp f2 c a))

/-- the operations of a state still to be executed, in an order the sequential run could use -/
def pending (s : St) : List Op := s.queue ++ s.todo

theorem seqExec_none (c : Cfg) (r : List Op) : seqExec c none r = none := by
  cases r <;> rfl

theorem seqExec_cons (c : Cfg) (fs : Fs) (op : Op) (r : List Op) :
    seqExec c (some fs) (op :: r) = seqExec c (execOp fs c op) r := rfl

theorem seqExec_two (c : Cfg) (fs : Fs) (a b : Op) (r : List Op) :
    seqExec c (some fs) (a :: b :: r)
      = seqExec c ((execOp fs c a).bind (fun f => execOp f c b)) r := by
  rw [seqExec_cons]
  cases h : execOp fs c a with
  | none => simp [seqExec_none]
  | some f => simp [seqExec_cons]

theorem ORel.of_none {Q : Fs → Fs → Prop} {y : Option Fs} (h : ORel Q none y) : y = none := by
  cases y with
  | none => rfl
  | some _ => exact h.elim

theorem ORel.of_some {Q : Fs → Fs → Prop} {f : Fs} {y : Option Fs} (h : ORel Q (some f) y) :
    ∃ g, y = some g ∧ Q f g := by
  cases y with
  | none => exact h.elim
  | some g => exact ⟨g, rfl, h⟩

/-- Two partial maps commute at `s` up to `E` as soon as each, run after the other, does what it does at `s` — up
to `Q1` resp. `Q2`, which may mention the state the other one produced — and the two relations together give `E`. -/
theorem ORel.square {E : Fs → Fs → Prop} {Q1 Q2 : Fs → Fs → Fs → Prop} {x y : Fs → Option Fs} {s : Fs}
    (T1 : ∀ sy, y s = some sy → ORel (Q1 sy) (x s) (x sy))
    (T2 : ∀ sx, x s = some sx → ORel (Q2 sx) (y s) (y sx))
    (hE : ∀ sx sy sxy syx, x s = some sx → y s = some sy → y sx = some sxy → x sy = some syx →
      Q1 sy sx syx → Q2 sx sy sxy → E sxy syx) :
    ORel E ((x s).bind y) ((y s).bind x) := by
  cases hx : x s with
  | none =>
    cases hy : y s with
    | none => trivial
    | some sy =>
      have t1 := T1 sy hy
      rw [hx] at t1
      simp only [Option.bind_none, Option.bind_some, t1.of_none]
      trivial
  | some sx =>
    have t2 := T2 sx hx
    cases hy : y s with
    | none =>
      rw [hy] at t2
      simp only [Option.bind_none, Option.bind_some, t2.of_none]
      trivial
    | some sy =>
      have t1 := T1 sy hy
      rw [hx] at t1
      rw [hy] at t2
      obtain ⟨syx, hyx, q1⟩ := t1.of_some
      obtain ⟨sxy, hxy, q2⟩ := t2.of_some
      simp only [Option.bind_some, hyx, hxy]
      exact hE sx sy sxy syx hx hy hxy hyx q1 q2

section

variable {c : Cfg} {E : Fs → Fs → Prop} {Good : Fs → Op → Prop} {R : Op → Op → Prop}

theorem ORel.symm (hc : Commutes c E Good R) {x y : Option Fs} (h : ORel E x y) : ORel E y x := by
  cases x <;> cases y <;> simp only [ORel] at h ⊢
  exact hc.symm _ _ h

theorem ORel.trans (hc : Commutes c E Good R) {x y z : Option Fs} (h1 : ORel E x y) (h2 : ORel E y z) :
    ORel E x z := by
  cases x <;> cases y <;> cases z <;> simp only [ORel] at h1 h2 ⊢
  exact hc.trans _ _ _ h1 h2

theorem ORel.refl_left (hc : Commutes c E Good R) {x y : Option Fs} (h : ORel E x y) : ORel E x x :=
  ORel.trans hc h (ORel.symm hc h)

theorem ORel.refl_right (hc : Commutes c E Good R) {x y : Option Fs} (h : ORel E x y) : ORel E y y :=
  ORel.trans hc (ORel.symm hc h) h

theorem exec_wf (hc : Commutes c E Good R) {fs fs' : Fs} {op : Op} (hfs : E fs fs)
    (hx : execOp fs c op = some fs') : E fs' fs' := by
  have := hc.cong fs fs op hfs
  rw [hx] at this
  exact this

theorem seqExec_cong (hc : Commutes c E Good R) : ∀ (r : List Op) (x y : Option Fs), ORel E x y →
    ORel E (seqExec c x r) (seqExec c y r) := by
  intro r
  induction r with
  | nil =>
    intro x y h
    cases x <;> cases y <;> simp only [ORel] at h <;> simp [seqExec, ORel, h]
  | cons op r ih =>
    intro x y h
    cases x <;> cases y <;> simp only [ORel] at h
    · rw [seqExec_none]; trivial
    · rw [seqExec_cons, seqExec_cons]
      exact ih _ _ (hc.cong _ _ op h)

theorem seqExec_swap (hc : Commutes c E Good R)
    (fs : Fs) (a b : Op) (r : List Op) (hfs : E fs fs) (hg : Good fs a) (hne : R a b) (hs : isSync a = false) :
    ORel E (seqExec c (some fs) (a :: b :: r)) (seqExec c (some fs) (b :: a :: r)) := by
  rw [seqExec_two, seqExec_two]
  exact seqExec_cong hc r _ _ (hc.comm fs a b hfs hg hne hs)

/-- moving an operation `m` to the front, past a queue of good operations -/
theorem move_front (hc : Commutes c E Good R) (m : Op) (r : List Op) :
    ∀ (q : List Op) (fs : Fs), E fs fs → (∀ a ∈ q, Good fs a ∧ isSync a = false ∧ R a m) → q.Nodup →
      (∀ a ∈ q, ∀ b ∈ q, a ≠ b → R a b) →
      ORel E (seqExec c (some fs) (q ++ m :: r)) (seqExec c (some fs) (m :: (q ++ r))) := by
  intro q
  induction q with
  | nil => intro fs hfs _ _ _; exact seqExec_cong hc _ _ _ hfs
  | cons a q ih =>
    intro fs hfs hq hnd hR
    have ha := hq a (List.mem_cons_self ..)
    rw [List.nodup_cons] at hnd
    rw [List.cons_append, List.cons_append]
    refine ORel.trans hc ?_ (seqExec_swap hc fs a m _ hfs ha.1 ha.2.2 ha.2.1)
    rw [seqExec_cons, seqExec_cons]
    cases hx : execOp fs c a with
    | none => rw [seqExec_none, seqExec_none]; trivial
    | some fa =>
      apply ih fa (exec_wf hc hfs hx) _ hnd.2
        (fun x hx y hy => hR x (List.mem_cons_of_mem _ hx) y (List.mem_cons_of_mem _ hy))
      intro a' ha'
      have h' := hq a' (List.mem_cons_of_mem _ ha')
      have hne : a' ≠ a := fun h => hnd.1 (h ▸ ha')
      have hr : R a' a := hR a' (List.mem_cons_of_mem _ ha') a (List.mem_cons_self ..) hne
      exact ⟨hc.preserved fs fa a' a hfs h'.1 hr hx, h'.2⟩

/-- moving a good queued operation `a` to the front, past the operations queued before it -/
theorem move_front' (hc : Commutes c E Good R) (a : Op) (t : List Op) (hs : isSync a = false) :
    ∀ (pre : List Op) (fs : Fs), E fs fs → Good fs a → (∀ b ∈ pre, R a b) →
      ORel E (seqExec c (some fs) (pre ++ a :: t)) (seqExec c (some fs) (a :: (pre ++ t))) := by
  intro pre
  induction pre with
  | nil => intro fs hfs _ _; exact seqExec_cong hc _ _ _ hfs
  | cons b pre ih =>
    intro fs hfs hg hne
    have hab : R a b := hne b (List.mem_cons_self ..)
    rw [List.cons_append, List.cons_append]
    refine ORel.trans hc ?_ (ORel.symm hc (seqExec_swap hc fs a b _ hfs hg hab hs))
    rw [seqExec_cons, seqExec_cons]
    cases hx : execOp fs c b with
    | none => rw [seqExec_none, seqExec_none]; trivial
    | some fb =>
      exact ih fb (exec_wf hc hfs hx) (hc.preserved fs fb a b hfs hg hab hx)
        (fun b' hb' => hne b' (List.mem_cons_of_mem _ hb'))

end

/-- the five ways a step can go -/
inductive Steps (c : Cfg) (s : St) : Label → St → Prop
  | sync (op : Op) (r : List Op) (fs' : Fs) : s.failed = false → s.todo = op :: r → isSync op = true →
      execOp s.fs c op = some fs' → Steps c s .walk { s with fs := fs', todo := r }
  | syncFail (op : Op) (r : List Op) : s.failed = false → s.todo = op :: r → isSync op = true →
      execOp s.fs c op = none → Steps c s .walk { s with todo := [], failed := true }
  | enqueue (op : Op) (r : List Op) : s.failed = false → s.todo = op :: r → isSync op = false →
      Steps c s .walk { s with todo := r, queue := s.queue ++ [op] }
  | done (i : Nat) (op : Op) (fs' : Fs) : s.queue[i]? = some op → execOp s.fs c op = some fs' →
      Steps c s (.exec i) { s with fs := fs', queue := s.queue.eraseIdx i }
  | fail (i : Nat) (op : Op) : s.queue[i]? = some op → execOp s.fs c op = none →
      Steps c s (.exec i) { s with queue := s.queue.eraseIdx i, failed := true }

theorem steps_of_step {c : Cfg} {s s1 : St} {l : Label} (h : step c s l = some s1) : Steps c s l s1 := by
  obtain ⟨fs, todo, queue, failed⟩ := s
  cases l with
  | walk =>
    cases failed with
    | true => cases h
    | false =>
      cases todo with
      | nil => cases h
      | cons op r =>
        simp only [step, Bool.false_eq_true, if_false] at h
        cases hs : isSync op with
        | false =>
          simp only [hs, Bool.false_eq_true, if_false, Option.some.injEq] at h
          subst h
          exact .enqueue op r rfl rfl hs
        | true =>
          simp only [hs, if_true] at h
          cases hx : execOp fs c op with
          | none => simp only [hx, Option.some.injEq] at h; subst h; exact .syncFail op r rfl rfl hs hx
          | some fs' => simp only [hx, Option.some.injEq] at h; subst h; exact .sync op r fs' rfl rfl hs hx
  | exec i =>
    simp only [step] at h
    cases hq : queue[i]? with
    | none => simp only [hq] at h; cases h
    | some op =>
      simp only [hq] at h
      cases hx : execOp fs c op with
      | none => simp only [hx, Option.some.injEq] at h; subst h; exact .fail i op hq hx
      | some fs' => simp only [hx, Option.some.injEq] at h; subst h; exact .done i op fs' hq hx

theorem step_failed_sticky (c : Cfg) (s s1 : St) (l : Label) (h : step c s l = some s1)
    (hf : s.failed = true) : s1.failed = true := by
  cases steps_of_step h with
  | sync op r fs' hf' => rw [hf] at hf'; cases hf'
  | syncFail => rfl
  | enqueue op r hf' => rw [hf] at hf'; cases hf'
  | done => exact hf
  | fail => rfl

theorem run_append (c : Cfg) : ∀ (l1 l2 : List Label) (s : St),
    run c s (l1 ++ l2) = (run c s l1).bind (fun s' => run c s' l2) := by
  intro l1
  induction l1 with
  | nil => intro l2 s; rfl
  | cons l l1 ih =>
    intro l2 s
    simp only [List.cons_append, run]
    cases step c s l with
    | none => rfl
    | some s1 => exact ih l2 s1

theorem run_invariant (c : Cfg) (I : St → Prop) (hstep : ∀ s l s1, I s → step c s l = some s1 → I s1) :
    ∀ (ls : List Label) (s s' : St), I s → run c s ls = some s' → I s' :=
  Lts.run_ind (fun _ => rfl) (fun s l ls => by simp only [run]; cases step c s l <;> rfl) I hstep

/-- What the refinement theorem asks of the run: the list has no duplicates, distinct operations of the list are
independent (for a queueable first operation), and every operation is good at the moment the walker hands it over. -/
structure Handed (c : Cfg) (Good : Fs → Op → Prop) (R : Op → Op → Prop) (fs0 : Fs) (ops : List Op) : Prop where
  nodup : ops.Nodup
  indep : ∀ a ∈ ops, ∀ b ∈ ops, a ≠ b → isSync a = false → R a b
  hand : ∀ (ls : List Label) (s : St) (op : Op) (r : List Op), run c (init fs0 ops) ls = some s →
    s.failed = false → s.todo = op :: r → isSync op = false → Good s.fs op

/-- The invariant of the refinement proof, for a state that has not failed: executing what is pending sequentially
(queue first) gives, up to `E`, what executing the whole list from the initial state gives; the state is well-formed;
every queued operation is good and queueable; what is pending is a sublist of the operations. -/
structure RInv (c : Cfg) (E : Fs → Fs → Prop) (Good : Fs → Op → Prop) (fs0 : Fs) (ops : List Op) (s : St) :
    Prop where
  seq : ORel E (seqExec c (some s.fs) (s.queue ++ s.todo)) (seqExec c (some fs0) ops)
  wf : E s.fs s.fs
  good : ∀ a ∈ s.queue, Good s.fs a ∧ isSync a = false
  sub : (s.queue ++ s.todo).Sublist ops

section

variable {c : Cfg} {E : Fs → Fs → Prop} {Good : Fs → Op → Prop} {R : Op → Op → Prop} {fs0 : Fs} {ops : List Op}

theorem RInv_init (hc : Commutes c E Good R) (fs0 : Fs) (ops : List Op) (h0 : E fs0 fs0) :
    RInv c E Good fs0 ops (init fs0 ops) :=
  ⟨seqExec_cong hc ops (some fs0) (some fs0) h0, h0, fun _ ha => (by cases ha), List.Sublist.refl ops⟩

/-- the walker executes the next operation itself: it moves to the front, past the queue -/
theorem RInv.sync (hc : Commutes c E Good R) (H : Handed c Good R fs0 ops) {s : St} (hinv : RInv c E Good fs0 ops s)
    {op : Op} {r : List Op} {fs' : Fs} (htd : s.todo = op :: r) (hx : execOp s.fs c op = some fs') :
    RInv c E Good fs0 ops { s with fs := fs', todo := r } := by
  obtain ⟨hseq, hwf, hgood, hsub⟩ := hinv
  rw [htd] at hseq hsub
  have hnd' := List.nodup_append.1 (H.nodup.sublist hsub)
  have hmem : ∀ a ∈ s.queue, a ∈ ops := fun a ha => hsub.subset (List.mem_append_left _ ha)
  have hopmem : op ∈ ops := hsub.subset (List.mem_append_right _ (List.mem_cons_self ..))
  have hr : ∀ a ∈ s.queue, R a op := fun a ha =>
    H.indep a (hmem a ha) op hopmem (hnd'.2.2 a ha op (List.mem_cons_self ..)) (hgood a ha).2
  refine ⟨?_, exec_wf hc hwf hx, fun a ha => ⟨hc.preserved s.fs fs' a op hwf (hgood a ha).1 (hr a ha) hx,
    (hgood a ha).2⟩, (List.Sublist.append_left (List.sublist_cons_self op r) s.queue).trans hsub⟩
  have hm := move_front hc op r s.queue s.fs hwf (fun a ha => ⟨(hgood a ha).1, (hgood a ha).2, hr a ha⟩) hnd'.1
    (fun a ha b hb hab => H.indep a (hmem a ha) b (hmem b hb) hab (hgood a ha).2)
  rw [seqExec_cons, hx] at hm
  exact ORel.trans hc (ORel.symm hc hm) hseq

/-- the walker hands the next operation to the workers: the order of what is pending does not change -/
theorem RInv.enqueue {s : St} (hinv : RInv c E Good fs0 ops s) {op : Op} {r : List Op} (htd : s.todo = op :: r)
    (hg : Good s.fs op) (hs : isSync op = false) :
    RInv c E Good fs0 ops { s with todo := r, queue := s.queue ++ [op] } := by
  obtain ⟨hseq, hwf, hgood, hsub⟩ := hinv
  rw [htd] at hseq hsub
  have e : (s.queue ++ [op]) ++ r = s.queue ++ op :: r := List.append_assoc _ _ _
  refine ⟨by rw [e]; exact hseq, hwf, fun a ha => ?_, by rw [e]; exact hsub⟩
  rcases List.mem_append.1 ha with ha | ha
  · exact hgood a ha
  · rw [List.mem_singleton.1 ha]
    exact ⟨hg, hs⟩

/-- a worker completes a queued operation: it moves to the front, past those queued before it -/
theorem RInv.done (hc : Commutes c E Good R) (H : Handed c Good R fs0 ops) {s : St} (hinv : RInv c E Good fs0 ops s)
    {i : Nat} {a : Op} {fs' : Fs} (hq : s.queue[i]? = some a) (hx : execOp s.fs c a = some fs') :
    RInv c E Good fs0 ops { s with fs := fs', queue := s.queue.eraseIdx i } := by
  obtain ⟨hseq, hwf, hgood, hsub⟩ := hinv
  obtain ⟨qpre, qpost, hq1, hq2⟩ := eraseIdx_split s.queue i a hq
  simp only [hq2]
  rw [hq1] at hseq hgood hsub
  have hnd2 := List.nodup_append.1 (List.nodup_append.1 (H.nodup.sublist hsub)).1
  have hga := hgood a (List.mem_append_right _ (List.mem_cons_self ..))
  have hqmem : ∀ b ∈ qpre ++ a :: qpost, b ∈ ops := fun b hb => hsub.subset (List.mem_append_left _ hb)
  have hamem : a ∈ ops := hqmem a (List.mem_append_right _ (List.mem_cons_self ..))
  have hne1 : ∀ b ∈ qpre, a ≠ b := fun b hb h => hnd2.2.2 b hb a (List.mem_cons_self ..) h.symm
  have hne2 : ∀ b ∈ qpost, a ≠ b := fun b hb h => (List.nodup_cons.1 hnd2.2.1).1 (h ▸ hb)
  have hsub' : ((qpre ++ qpost) ++ s.todo).Sublist ((qpre ++ a :: qpost) ++ s.todo) :=
    List.Sublist.append_right (List.Sublist.append_left (List.sublist_cons_self ..) _) _
  refine ⟨?_, exec_wf hc hwf hx, fun b hb => ?_, hsub'.trans hsub⟩
  · have hm := move_front' hc a (qpost ++ s.todo) hga.2 qpre s.fs hwf hga.1
      (fun b hb => H.indep a hamem b (hqmem b (List.mem_append_left _ hb)) (hne1 b hb) hga.2)
    rw [seqExec_cons, hx] at hm
    rw [List.append_assoc, List.cons_append] at hseq
    rw [List.append_assoc]
    exact ORel.trans hc (ORel.symm hc hm) hseq
  · have hb' : b ∈ qpre ++ a :: qpost :=
      (List.mem_append.1 hb).elim (List.mem_append_left _) (fun h => List.mem_append_right _ (List.mem_cons_of_mem _ h))
    have hba : b ≠ a := (List.mem_append.1 hb).elim (fun h e => hne1 b h e.symm) (fun h e => hne2 b h e.symm)
    exact ⟨hc.preserved s.fs fs' b a hwf (hgood b hb').1 (H.indep b (hqmem b hb') a hamem hba (hgood b hb').2) hx,
      (hgood b hb').2⟩

theorem run_inv (hc : Commutes c E Good R) (H : Handed c Good R fs0 ops)
    (h0 : E fs0 fs0) (ls : List Label) (s : St) (hrun : run c (init fs0 ops) ls = some s)
    (hok : s.failed = false) : RInv c E Good fs0 ops s := by
  -- reachable states that have not failed satisfy the invariant
  have key := run_invariant c
    (fun s => (∃ pre, run c (init fs0 ops) pre = some s) ∧ (s.failed = false → RInv c E Good fs0 ops s))
    (fun s l s1 hI hs => by
      obtain ⟨⟨pre, hpre⟩, hinv⟩ := hI
      refine ⟨⟨pre ++ [l], by rw [run_append, hpre]; simp [run, hs]⟩, fun hok1 => ?_⟩
      have hf : s.failed = false := by
        cases h : s.failed with
        | false => rfl
        | true => rw [step_failed_sticky c s s1 l hs h] at hok1; cases hok1
      cases steps_of_step hs with
      | sync op r fs' _ htd _ hx => exact (hinv hf).sync hc H htd hx
      | syncFail => cases hok1
      | enqueue op r _ htd hsy => exact (hinv hf).enqueue htd (H.hand pre s op r hpre hf htd hsy) hsy
      | done i a fs' hq hx => exact (hinv hf).done hc H hq hx
      | fail => cases hok1)
    ls (init fs0 ops) s ⟨⟨[], rfl⟩, fun _ => RInv_init hc fs0 ops h0⟩ hrun
  exact key.2 hok

end

/-- Main theorem: refinement of the sequential execution.  If the initial state is well-formed (`E fs0 fs0`),
every operation is good at the moment the walker hands it over (`hand`), the list has no duplicates, distinct
operations of the list are independent (`hR`, for a queueable first operation), and the run is complete and
failure-free, then the sequential execution succeeds too, and its final file system is `E`-related to the
concurrent run's. -/
theorem complete_run_refines_sequential (c : Cfg) (E : Fs → Fs → Prop) (Good : Fs → Op → Prop)
    (R : Op → Op → Prop) (hc : Commutes c E Good R)
    (fs0 : Fs) (ops : List Op) (h0 : E fs0 fs0) (hnd : ops.Nodup)
    (hR : ∀ a ∈ ops, ∀ b ∈ ops, a ≠ b → isSync a = false → R a b)
    (hand : ∀ (ls : List Label) (s : St) (op : Op) (r : List Op), run c (init fs0 ops) ls = some s →
              s.failed = false → s.todo = op :: r → isSync op = false → Good s.fs op)
    (ls : List Label) (s : St) (hrun : run c (init fs0 ops) ls = some s)
    (hfin : final s = true) (hok : s.failed = false) :
    ∃ f, seqExec c (some fs0) ops = some f ∧ E f s.fs := by
  have hinv := run_inv hc ⟨hnd, hR, hand⟩ h0 ls s hrun hok
  have hseq := hinv.seq
  simp only [final, Bool.and_eq_true, List.isEmpty_iff] at hfin
  rw [hfin.1, hfin.2] at hseq
  simp only [List.append_nil, seqExec] at hseq
  cases hx : seqExec c (some fs0) ops with
  | none => rw [hx] at hseq; exact hseq.elim
  | some f => rw [hx] at hseq; exact ⟨f, rfl, hc.symm _ _ hseq⟩

/-- the special case of literal equality -/
theorem complete_run_refines_sequential_eq (c : Cfg) (Good : Fs → Op → Prop) (R : Op → Op → Prop)
    (hc : Commutes c Eq Good R)
    (fs0 : Fs) (ops : List Op) (hnd : ops.Nodup)
    (hR : ∀ a ∈ ops, ∀ b ∈ ops, a ≠ b → isSync a = false → R a b)
    (hand : ∀ (ls : List Label) (s : St) (op : Op) (r : List Op), run c (init fs0 ops) ls = some s →
              s.failed = false → s.todo = op :: r → isSync op = false → Good s.fs op)
    (ls : List Label) (s : St) (hrun : run c (init fs0 ops) ls = some s)
    (hfin : final s = true) (hok : s.failed = false) :
    seqExec c (some fs0) ops = some s.fs := by
  obtain ⟨f, hf, he⟩ := complete_run_refines_sequential c Eq Good R hc fs0 ops rfl hnd hR hand ls s hrun hfin hok
  rw [hf, he]

end Xcp.L0
