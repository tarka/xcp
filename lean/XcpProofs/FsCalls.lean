import XcpProofs.FsResolve
/-! # The mutating calls and `execOp` in normal form

Each mutating call resolves a path, looks at the observation of what it found and then does one of four things
(`Act`): fail, nothing, `setAt`, `delAt`; `mkdir`, `symlink` and `mknod` are one call (`Fs.make`).
`create_dir_all` is a recursion over "try `mkdir`, accept an existing directory" (`tryMk`), and on a path spelled
with names it only visits the prefixes of the path.  A successful `execOp` is a guard on what `stat` shows at
source and target, followed by at most two calls.  What later files need of the calls is derived from these forms. -/

namespace Xcp

/-- what a call sees of the object it resolved: its observation, if the path was found -/
def resObs (f : Fs) : Res → Option ONode
  | .found q => obsAt f.root q
  | _ => none

/-- `stat`, observed -/
def ostatOf : Res → Option ONode → Option (List Name × ONode)
  | .found c, o => o.map (c, ·)
  | _, _ => none

/-- `stat`, with the observation of the node in place of the node -/
def Fs.ostat (f : Fs) (p : RPath) : Option (List Name × ONode) :=
  ostatOf (f.resolve p true) (resObs f (f.resolve p true))

theorem ostat_eq (f : Fs) (p : RPath) : f.ostat p = (f.stat p).map fun x => (x.1, x.2.obs) := by
  unfold Fs.ostat Fs.stat
  cases f.resolve p true with
  | found c => simp only [ostatOf, resObs, obsAt]; cases f.root.getAt c <;> rfl
  | missing par n => rfl
  | err e => rfl

theorem exists_ostat (f : Fs) (p : RPath) : f.exists p = (f.ostat p).isSome := by
  rw [ostat_eq, Fs.exists]; cases f.stat p <;> rfl

theorem isDir_ostat (f : Fs) (p : RPath) :
    f.isDir p = match f.ostat p with | some (_, .dir) => true | _ => false := by
  rw [ostat_eq, Fs.isDir]
  cases f.stat p with
  | none => rfl
  | some x => obtain ⟨c, n⟩ := x; cases n <;> rfl

theorem sameFile_ostat (f : Fs) (a b : RPath) :
    f.sameFile a b = match f.ostat a, f.ostat b with
      | some (x, _), some (y, _) => decide (x = y)
      | _, _ => false := by
  rw [ostat_eq, ostat_eq, Fs.sameFile]
  cases f.stat a <;> cases f.stat b <;> rfl

theorem contentOf_ostat (f : Fs) (p : RPath) :
    f.contentOf p = match f.ostat p with | some (_, .file c) => some c | _ => none := by
  rw [ostat_eq, Fs.contentOf]
  cases f.stat p with
  | none => rfl
  | some x => obtain ⟨c, n⟩ := x; cases n <;> rfl

/-- the special file a path resolves to -/
def Fs.specialOf (f : Fs) (p : RPath) : Option (FileKind × Nat) :=
  match f.stat p with
  | some (_, .special k d) => some (k, d)
  | _ => none

theorem specialOf_ostat (f : Fs) (p : RPath) :
    f.specialOf p = match f.ostat p with | some (_, .special k d) => some (k, d) | _ => none := by
  rw [ostat_eq, Fs.specialOf]
  cases f.stat p with
  | none => rfl
  | some x => obtain ⟨c, n⟩ := x; cases n <;> rfl

/-- what a call does to the tree once it has looked: fail, nothing, write `v` at `q`, remove what is at `q` -/
inductive Act
  | err (e : Errno)
  | keep
  | set (q : List Name) (v : Node)
  | del (q : List Name)

/-- carrying out an action -/
def Act.run (f : Fs) : Act → Except Errno Fs
  | .err e => .error e
  | .keep => .ok f
  | .set q v => .ok { f with root := f.root.setAt q v }
  | .del q => .ok { f with root := f.root.delAt q }

/-- the action of `File::create` + copy, from the resolution (following links) and what is there -/
def createAct (trail : Bool) (c : Nat) : Res → Option ONode → Act
  | .found q, some (.file _) => .set q (.file c)
  | .found _, some .dir => .err .EISDIR
  | .found _, some (.special _ _) => .keep
  | .found _, _ => .err .ENOENT
  | .missing par n, _ => if trail then .err .EISDIR else .set (par ++ [n]) (.file c)
  | .err e, _ => .err e

/-- the action of a creating call (`mkdir`, `symlink`, `mknod`): `v` where the last component is missing -/
def mkAct (v : Node) : Res → Act
  | .found _ => .err .EEXIST
  | .missing par n => .set (par ++ [n]) v
  | .err e => .err e

/-- the action of `unlink`, from the resolution (not following a final link) and what is there -/
def unlinkAct : Res → Option ONode → Act
  | .found _, some .dir => .err .EISDIR
  | .found q, some _ => if q.isEmpty then .err .EISDIR else .del q
  | .found _, none => .err .ENOENT
  | .missing _ _, _ => .err .ENOENT
  | .err e, _ => .err e

/-- `mkdir`, `symlink`, `mknod`: create `v` where the last component is missing -/
def Fs.make (f : Fs) (p : RPath) (v : Node) : Except Errno Fs := (mkAct v (f.resolve p false)).run f

theorem createFile_eq (f : Fs) (p : RPath) (c : Nat) :
    f.createFile p c = (createAct p.trail c (f.resolve p true) (resObs f (f.resolve p true))).run f := by
  unfold Fs.createFile
  cases f.resolve p true with
  | found q =>
    simp only [resObs, obsAt]
    cases f.root.getAt q with
    | none => rfl
    | some x => cases x <;> rfl
  | missing par n => simp only [createAct]; split <;> rfl
  | err e => rfl

theorem mkdir_eq (f : Fs) (p : RPath) : f.mkdir p = f.make p (.dir []) := by
  unfold Fs.mkdir Fs.make
  cases f.resolve p false <;> rfl

theorem symlink_eq (f : Fs) (tg p : RPath) : f.symlink tg p = f.make p (.link tg) := by
  unfold Fs.symlink Fs.make
  cases f.resolve p false <;> rfl

theorem mknod_eq (f : Fs) (p : RPath) (k : FileKind) (d : Nat) : f.mknod p k d = f.make p (.special k d) := by
  unfold Fs.mknod Fs.make
  cases f.resolve p false <;> rfl

theorem unlink_eq (f : Fs) (p : RPath) :
    f.unlink p = (unlinkAct (f.resolve p false) (resObs f (f.resolve p false))).run f := by
  unfold Fs.unlink
  cases f.resolve p false with
  | found q =>
    simp only [resObs, obsAt]
    cases f.root.getAt q with
    | none => rfl
    | some x => cases x <;> simp only [Option.map_some, Node.obs, unlinkAct] <;> (try split) <;> rfl
  | missing par n => rfl
  | err e => rfl

theorem Act.run_cwd {A : Act} {f f' : Fs} (h : A.run f = .ok f') : f'.cwd = f.cwd := by
  cases A <;> cases h <;> rfl

theorem make_ok {f f' : Fs} {p : RPath} {v : Node} (h : f.make p v = .ok f') :
    ∃ par n, f.resolve p false = .missing par n ∧ f' = { f with root := f.root.setAt (par ++ [n]) v } := by
  unfold Fs.make at h
  cases hr : f.resolve p false with
  | found q => simp only [hr] at h; cases h
  | missing par n => simp only [hr] at h; cases h; exact ⟨par, n, rfl, rfl⟩
  | err e => simp only [hr] at h; cases h

theorem createFile_ok {f f' : Fs} {p : RPath} {c : Nat} (h : f.createFile p c = .ok f') :
    (∃ q k, f.resolve p true = .found q ∧ f.root.getAt q = some (.file k) ∧
        f' = { f with root := f.root.setAt q (.file c) }) ∨
    (∃ q k d, f.resolve p true = .found q ∧ f.root.getAt q = some (.special k d) ∧ f' = f) ∨
    (∃ par n, f.resolve p true = .missing par n ∧ f' = { f with root := f.root.setAt (par ++ [n]) (.file c) }) := by
  rw [createFile_eq] at h
  cases hr : f.resolve p true with
  | err e => rw [hr] at h; cases h
  | missing par n =>
    rw [hr] at h
    cases ht : p.trail with
    | true => rw [ht] at h; cases h
    | false => rw [ht] at h; cases h; exact .inr (.inr ⟨par, n, rfl, rfl⟩)
  | found q =>
    rw [hr, resObs, obsAt] at h
    cases hg : f.root.getAt q with
    | none => rw [hg] at h; cases h
    | some x =>
      rw [hg] at h
      cases x with
      | file k => cases h; exact .inl ⟨q, k, rfl, hg, rfl⟩
      | dir es => cases h
      | link t => cases h
      | special k d => cases h; exact .inr (.inl ⟨q, k, d, rfl, hg, rfl⟩)

theorem unlink_ok {f f' : Fs} {p : RPath} (h : f.unlink p = .ok f') :
    ∃ q x, f.resolve p false = .found q ∧ f.root.getAt q = some x ∧ x.isDir = false ∧ q ≠ [] ∧
      f' = { f with root := f.root.delAt q } := by
  rw [unlink_eq] at h
  cases hr : f.resolve p false with
  | err e => rw [hr] at h; cases h
  | missing par n => rw [hr] at h; cases h
  | found q =>
    rw [hr, resObs, obsAt] at h
    cases hg : f.root.getAt q with
    | none => rw [hg] at h; cases h
    | some x =>
      rw [hg] at h
      cases q with
      | nil => cases x <;> cases h
      | cons a q' =>
        cases x with
        | dir es => cases h
        | file k => cases h; exact ⟨_, _, rfl, hg, rfl, List.cons_ne_nil a q', rfl⟩
        | link t => cases h; exact ⟨_, _, rfl, hg, rfl, List.cons_ne_nil a q', rfl⟩
        | special k d => cases h; exact ⟨_, _, rfl, hg, rfl, List.cons_ne_nil a q', rfl⟩

theorem make_plain {f f' : Fs} {ns : List Name} {v : Node} (hl : NoLinkAbove f.root ns)
    (h : f.make (plainPath ns) v = .ok f') :
    ∃ par n, par ++ [n] = ns ∧ f.resolve (plainPath ns) false = .missing par n ∧
      f' = { f with root := f.root.setAt ns v } := by
  obtain ⟨par, n, hr, rfl⟩ := make_ok h
  have hpn := (hr ▸ plainRes_nofollow f ns hl).missing_eq
  exact ⟨par, n, hpn, hr, by rw [hpn]⟩

theorem createFile_plain {f f' : Fs} {ns : List Name} {c : Nat} (hl : NoLinkUpto f.root ns)
    (h : f.createFile (plainPath ns) c = .ok f') :
    (∃ k, f.root.getAt ns = some (.file k) ∧ f' = { f with root := f.root.setAt ns (.file c) }) ∨
    (∃ k d, f.root.getAt ns = some (.special k d) ∧ f' = f) ∨
    (∃ par n, par ++ [n] = ns ∧ f.resolve (plainPath ns) true = .missing par n ∧
      f' = { f with root := f.root.setAt ns (.file c) }) := by
  have hres := plainRes_follow f ns hl
  rcases createFile_ok h with ⟨q, k, hr, hg, rfl⟩ | ⟨q, k, d, hr, hg, rfl⟩ | ⟨par, n, hr, rfl⟩
  · obtain rfl := (hr ▸ hres).found_eq
    exact .inl ⟨k, hg, rfl⟩
  · obtain rfl := (hr ▸ hres).found_eq
    exact .inr (.inl ⟨k, d, hg, rfl⟩)
  · have hpn := (hr ▸ hres).missing_eq
    exact .inr (.inr ⟨par, n, hpn, hr, by rw [hpn]⟩)

theorem unlink_plain {f f' : Fs} {ns : List Name} (hl : NoLinkAbove f.root ns)
    (h : f.unlink (plainPath ns) = .ok f') :
    ∃ x, f.root.getAt ns = some x ∧ x.isDir = false ∧ ns ≠ [] ∧ f' = { f with root := f.root.delAt ns } := by
  obtain ⟨q, x, hr, hg, hx, hq, rfl⟩ := unlink_ok h
  obtain rfl := (hr ▸ plainRes_nofollow f ns hl).found_eq
  exact ⟨x, hg, hx, hq, rfl⟩

/-- one step of `create_dir_all`: `mkdir`, where an existing directory is as good as a created one -/
def tryMk (fs : Fs) (p : RPath) : Except Errno Fs :=
  match fs.mkdir p with
  | .ok fs' => .ok fs'
  | .error e => if fs.isDir p then .ok fs else .error e

theorem tryMk_ok {f f' : Fs} {p : RPath} (h : tryMk f p = .ok f') :
    f.mkdir p = .ok f' ∨ (f' = f ∧ f.isDir p = true) := by
  unfold tryMk at h
  cases hm : f.mkdir p with
  | ok g => simp only [hm] at h; exact .inl h
  | error e =>
    simp only [hm] at h
    cases hd : f.isDir p with
    | true => simp only [hd, if_true] at h; cases h; exact .inr ⟨rfl, rfl⟩
    | false => simp [hd] at h

/-- the failure of `mkdir` that sends `create_dir_all` to the parent first -/
def noParent : Except Errno Fs → Bool
  | .error e => e == .ENOENT
  | .ok _ => false

theorem mkdirAllAux_cons (fs : Fs) (abs : Bool) (c : Comp) (rest : List Comp) :
    Fs.mkdirAllAux fs abs (c :: rest) =
      if noParent (fs.mkdir ⟨abs, (c :: rest).reverse, false⟩) then
        (Fs.mkdirAllAux fs abs rest).bind (fun fs1 => tryMk fs1 ⟨abs, (c :: rest).reverse, false⟩)
      else tryMk fs ⟨abs, (c :: rest).reverse, false⟩ := by
  rw [Fs.mkdirAllAux]
  split
  · rename_i fs' h
    simp only [h, noParent, tryMk, Bool.false_eq_true, if_false]
  · rename_i h
    simp only [h, noParent, beq_self_eq_true, if_true]
    cases Fs.mkdirAllAux fs abs rest <;> rfl
  · rename_i e hne h
    have : (e == Errno.ENOENT) = false := by
      cases he : e == Errno.ENOENT with
      | false => rfl
      | true => exact absurd (eq_of_beq he) hne
    simp only [h, noParent, this, tryMk, Bool.false_eq_true, if_false]

/-- a successful `create_dir_all` ends with a `tryMk` of the whole path, in the state it started in or after
`create_dir_all` of the parent -/
theorem mkdirAllAux_last {f f' : Fs} {abs : Bool} {c : Comp} {rest : List Comp}
    (h : Fs.mkdirAllAux f abs (c :: rest) = .ok f') :
    ∃ f1, (f1 = f ∨ Fs.mkdirAllAux f abs rest = .ok f1) ∧ tryMk f1 ⟨abs, (c :: rest).reverse, false⟩ = .ok f' := by
  rw [mkdirAllAux_cons] at h
  split at h
  · cases hr : Fs.mkdirAllAux f abs rest with
    | error e => rw [hr] at h; cases h
    | ok f1 => rw [hr] at h; exact ⟨f1, .inr rfl, h⟩
  · exact ⟨f, .inl rfl, h⟩

/-- what holds of every successful `mkdir` on the way, holds of `create_dir_all` -/
theorem mkdirAllAux_ind (abs : Bool) (P : Fs → Fs → Prop) (refl : ∀ f, P f f)
    (trans : ∀ f g h, P f g → P g h → P f h) (step : ∀ f f' p, f.mkdir p = .ok f' → P f f') :
    ∀ (rev : List Comp) (f f' : Fs), Fs.mkdirAllAux f abs rev = .ok f' → P f f' := by
  intro rev
  induction rev with
  | nil => intro f f' h; cases h; exact refl f
  | cons c rest ih =>
    intro f f' h
    obtain ⟨f1, h1, h2⟩ := mkdirAllAux_last h
    have p1 : P f f1 := by
      rcases h1 with h1 | h1
      · rw [h1]; exact refl f
      · exact ih f f1 h1
    rcases tryMk_ok h2 with h2 | ⟨h2, _⟩
    · exact trans f f1 f' p1 (step f1 f' _ h2)
    · rw [h2]; exact p1

theorem mkdirAll_ind (P : Fs → Fs → Prop) (refl : ∀ f, P f f)
    (trans : ∀ f g h, P f g → P g h → P f h) (step : ∀ f f' p, f.mkdir p = .ok f' → P f f')
    {f f' : Fs} {p : RPath} (h : f.mkdirAll p = .ok f') : P f f' := by
  unfold Fs.mkdirAll at h
  split at h
  · cases h; exact refl f
  · exact mkdirAllAux_ind p.abs P refl trans step _ f f' h

theorem mkdirAll_plain_eq (f : Fs) (ns : List Name) :
    f.mkdirAll (plainPath ns) = Fs.mkdirAllAux f true (ns.reverse.map .name) := by
  unfold Fs.mkdirAll
  cases ns with
  | nil => rfl
  | cons a r => simp [plainPath, List.map_reverse]

theorem mkdirAll_plain_snoc (f : Fs) (par : List Name) (n : Name) :
    f.mkdirAll (plainPath (par ++ [n])) =
      if noParent (f.mkdir (plainPath (par ++ [n]))) then
        (f.mkdirAll (plainPath par)).bind (fun f1 => tryMk f1 (plainPath (par ++ [n])))
      else tryMk f (plainPath (par ++ [n])) := by
  have hp : (⟨true, (Comp.name n :: par.reverse.map .name).reverse, false⟩ : RPath) = plainPath (par ++ [n]) := by
    simp [plainPath]
  rw [mkdirAll_plain_eq, mkdirAll_plain_eq, List.reverse_append, List.reverse_singleton, List.singleton_append,
    List.map_cons, mkdirAllAux_cons, hp]

theorem mkdirAll_plain_last {f f' : Fs} {par : List Name} {n : Name}
    (h : f.mkdirAll (plainPath (par ++ [n])) = .ok f') :
    ∃ f1, (f1 = f ∨ f.mkdirAll (plainPath par) = .ok f1) ∧ tryMk f1 (plainPath (par ++ [n])) = .ok f' := by
  rw [mkdirAll_plain_snoc] at h
  split at h
  · cases hr : f.mkdirAll (plainPath par) with
    | error e => rw [hr] at h; cases h
    | ok f1 => rw [hr] at h; exact ⟨f1, .inr rfl, h⟩
  · exact ⟨f, .inl rfl, h⟩

theorem mkdirAll_plain_ind (ns : List Name) (P : Fs → Fs → Prop) (refl : ∀ f, P f f)
    (trans : ∀ f g h, P f g → P g h → P f h)
    (step : ∀ f f' p, p <+: ns → f.mkdir (plainPath p) = .ok f' → P f f') :
    ∀ (p : List Name) (f f' : Fs), p <+: ns → f.mkdirAll (plainPath p) = .ok f' → P f f' := by
  intro p
  induction p using snoc_induction with
  | nil => intro f f' _ h; cases h; exact refl f
  | snoc par n ih =>
    intro f f' hp h
    obtain ⟨f1, h1, h2⟩ := mkdirAll_plain_last h
    have p1 : P f f1 := by
      rcases h1 with h1 | h1
      · rw [h1]; exact refl f
      · exact ih f f1 ((List.prefix_append par [n]).trans hp) h1
    rcases tryMk_ok h2 with h2 | ⟨h2, _⟩
    · exact trans f f1 f' p1 (step f1 f' _ hp h2)
    · rw [h2]; exact p1

/-- `Q` lifted to results of calls: the same error, or related results -/
def ExRel (Q : Fs → Fs → Prop) : Except Errno Fs → Except Errno Fs → Prop
  | .error e, .error e' => e = e'
  | .ok a, .ok b => Q a b
  | _, _ => False

theorem ExRel.bind {Q Q' : Fs → Fs → Prop} {x y : Except Errno Fs} {k k' : Fs → Except Errno Fs}
    (h : ExRel Q x y) (hk : ∀ a b, Q a b → ExRel Q' (k a) (k' b)) : ExRel Q' (x.bind k) (y.bind k') := by
  cases x <;> cases y <;> simp only [ExRel] at h
  · exact h
  · exact hk _ _ h

theorem tryMk_rel {Q : Fs → Fs → Prop} {f f' : Fs} {p : RPath} (hq : Q f f')
    (hm : ExRel Q (f.mkdir p) (f'.mkdir p)) (hd : f.isDir p = f'.isDir p) : ExRel Q (tryMk f p) (tryMk f' p) := by
  unfold tryMk
  cases h : f.mkdir p <;> cases h' : f'.mkdir p <;> rw [h, h'] at hm <;> simp only [ExRel] at hm
  · subst hm
    simp only [hd]
    split
    · exact hq
    · exact rfl
  · exact hm

theorem ExRel.noParent {Q : Fs → Fs → Prop} {x y : Except Errno Fs} (h : ExRel Q x y) : noParent x = noParent y := by
  cases x <;> cases y <;> simp only [ExRel] at h
  · rw [h]
  · rfl

theorem mkdirAll_step_rel {Q : Fs → Fs → Prop} {p : RPath}
    (hmk : ∀ g g', Q g g' → ExRel Q (g.mkdir p) (g'.mkdir p)) (hdir : ∀ g g', Q g g' → g.isDir p = g'.isDir p)
    {f f' : Fs} (hq : Q f f') {x y : Except Errno Fs} (hxy : ExRel Q x y) :
    ExRel Q (if noParent (f.mkdir p) then x.bind (fun f1 => tryMk f1 p) else tryMk f p)
      (if noParent (f'.mkdir p) then y.bind (fun f1 => tryMk f1 p) else tryMk f' p) := by
  have try_rel : ∀ g g', Q g g' → ExRel Q (tryMk g p) (tryMk g' p) :=
    fun g g' h => tryMk_rel h (hmk g g' h) (hdir g g' h)
  rw [(hmk f f' hq).noParent]
  split
  · exact ExRel.bind hxy try_rel
  · exact try_rel f f' hq

theorem mkdirAll_rel (Q : Fs → Fs → Prop)
    (hmk : ∀ p g g', Q g g' → ExRel Q (g.mkdir p) (g'.mkdir p)) (hdir : ∀ p g g', Q g g' → g.isDir p = g'.isDir p)
    {f f' : Fs} (hq : Q f f') (p : RPath) : ExRel Q (f.mkdirAll p) (f'.mkdirAll p) := by
  unfold Fs.mkdirAll
  split
  · exact hq
  · generalize p.comps.reverse = rev
    induction rev with
    | nil => exact hq
    | cons c rest ih =>
      rw [mkdirAllAux_cons, mkdirAllAux_cons]
      exact mkdirAll_step_rel (hmk _) (hdir _) hq ih

theorem mkdirAll_plain_rel (Q : Fs → Fs → Prop) (ns : List Name)
    (hmk : ∀ p, p <+: ns → ∀ g g', Q g g' → ExRel Q (g.mkdir (plainPath p)) (g'.mkdir (plainPath p)))
    (hdir : ∀ p, p <+: ns → ∀ g g', Q g g' → g.isDir (plainPath p) = g'.isDir (plainPath p))
    {f f' : Fs} (hq : Q f f') :
    ∀ p, p <+: ns → ExRel Q (f.mkdirAll (plainPath p)) (f'.mkdirAll (plainPath p)) := by
  intro p
  induction p using snoc_induction with
  | nil => intro _; exact hq
  | snoc par n ih =>
    intro hp
    rw [mkdirAll_plain_snoc, mkdirAll_plain_snoc]
    exact mkdirAll_step_rel (hmk _ hp) (hdir _ hp) hq (ih ((List.prefix_append par [n]).trans hp))

theorem execOp_mkdir_some {fs fs' : Fs} {c : Cfg} {t : RPath} :
    execOp fs c (.mkdir t) = some fs' ↔ fs.mkdirAll t = .ok fs' := toOption_some_iff

theorem execOp_link_some {fs fs' : Fs} {c : Cfg} {tx t : RPath} :
    execOp fs c (.link tx t) = some fs' ↔ fs.symlink tx t = .ok fs' := toOption_some_iff

theorem execOp_copy_eq (f : Fs) (c : Cfg) (s t : RPath) :
    execOp f c (.copy s t) =
      (f.contentOf s).bind fun k => if f.exists t && f.sameFile s t then none else (f.createFile t k).toOption := by
  rw [execOp]
  cases f.contentOf s <;> rfl

theorem execOp_copy_some {fs fs' : Fs} {c : Cfg} {s t : RPath} :
    execOp fs c (.copy s t) = some fs' ↔
      ∃ k, fs.contentOf s = some k ∧ (fs.exists t && fs.sameFile s t) = false ∧ fs.createFile t k = .ok fs' := by
  rw [execOp_copy_eq]
  cases fs.contentOf s with
  | none => simp
  | some k => cases hg : (fs.exists t && fs.sameFile s t) <;> simp [toOption_some_iff]

theorem execOp_special_eq (f : Fs) (c : Cfg) (s t : RPath) :
    execOp f c (.special s t) =
      match f.specialOf s with
      | some (k, rdev) =>
        if f.exists t then
          if c.noClobber then none
          else if f.sameFile s t then none
          else ((f.unlink t).bind fun f1 => f1.mknod t k rdev).toOption
        else (f.mknod t k rdev).toOption
      | none => none := by
  simp only [execOp, Fs.specialOf]
  cases f.stat s with
  | none => rfl
  | some x =>
    obtain ⟨q, n⟩ := x
    cases n with
    | special k d => cases f.unlink t <;> rfl
    | _ => rfl

theorem execOp_special_some {fs fs' : Fs} {c : Cfg} {s t : RPath} :
    execOp fs c (.special s t) = some fs' ↔
      ∃ k d, fs.specialOf s = some (k, d) ∧
        ((fs.exists t = false ∧ fs.mknod t k d = .ok fs') ∨
         (fs.exists t = true ∧ c.noClobber = false ∧ fs.sameFile s t = false ∧
            ∃ fs1, fs.unlink t = .ok fs1 ∧ fs1.mknod t k d = .ok fs')) := by
  rw [execOp_special_eq]
  cases fs.specialOf s with
  | none => simp
  | some kd =>
    obtain ⟨k, d⟩ := kd
    cases fs.exists t with
    | false => simp [toOption_some_iff, and_assoc]
    | true =>
      cases c.noClobber with
      | true => simp
      | false =>
        cases fs.sameFile s t with
        | true => simp
        | false => cases fs.unlink t <;> simp [toOption_some_iff, and_assoc, Except.bind]

theorem make_cwd {f f' : Fs} {p : RPath} {v : Node} (h : f.make p v = .ok f') : f'.cwd = f.cwd :=
  Act.run_cwd h

theorem mkdirAll_cwd {f f' : Fs} {p : RPath} (h : f.mkdirAll p = .ok f') : f'.cwd = f.cwd :=
  mkdirAll_ind (fun f f' => f'.cwd = f.cwd) (fun _ => rfl) (fun _ _ _ h1 h2 => h2.trans h1)
    (fun _ _ p h => make_cwd (mkdir_eq _ p ▸ h)) h

theorem execOp_cwd (fs fs' : Fs) (c : Cfg) (op : Op) (h : execOp fs c op = some fs') : fs'.cwd = fs.cwd := by
  cases op with
  | fail => cases h
  | mkdir t => exact mkdirAll_cwd (execOp_mkdir_some.1 h)
  | link tx t => exact make_cwd (symlink_eq _ tx t ▸ execOp_link_some.1 h)
  | copy s t =>
    obtain ⟨k, _, _, h⟩ := execOp_copy_some.1 h
    exact Act.run_cwd (createFile_eq _ t k ▸ h)
  | special s t =>
    obtain ⟨k, d, _, ⟨_, h⟩ | ⟨_, _, _, fs1, h1, h⟩⟩ := execOp_special_some.1 h
    · exact make_cwd (mknod_eq _ t k d ▸ h)
    · rw [make_cwd (mknod_eq _ t k d ▸ h)]
      exact Act.run_cwd (unlink_eq _ t ▸ h1)

theorem make_links {f f' : Fs} {p : RPath} {v : Node} (hv : linkCount v = 0) (h : f.make p v = .ok f') :
    linkCount f'.root ≤ linkCount f.root := by
  obtain ⟨par, n, _, rfl⟩ := make_ok h
  exact Nat.le_trans (linkCount_setAt_le (par ++ [n]) f.root v) (Nat.le_of_eq (by rw [hv]; rfl))

theorem createFile_links {f f' : Fs} {p : RPath} {c : Nat} (h : f.createFile p c = .ok f') :
    linkCount f'.root ≤ linkCount f.root := by
  rcases createFile_ok h with ⟨q, _, _, _, rfl⟩ | ⟨_, _, _, _, _, rfl⟩ | ⟨par, n, _, rfl⟩
  · exact linkCount_setAt_le q f.root (.file c)
  · exact Nat.le_refl _
  · exact linkCount_setAt_le (par ++ [n]) f.root (.file c)

theorem unlink_links {f f' : Fs} {p : RPath} (h : f.unlink p = .ok f') :
    linkCount f'.root ≤ linkCount f.root := by
  obtain ⟨q, _, _, _, _, _, rfl⟩ := unlink_ok h
  exact linkCount_delAt_le q f.root

theorem mkdirAll_links {f f' : Fs} {p : RPath} (h : f.mkdirAll p = .ok f') :
    linkCount f'.root ≤ linkCount f.root :=
  mkdirAll_ind (fun f f' => linkCount f'.root ≤ linkCount f.root) (fun _ => Nat.le_refl _)
    (fun _ _ _ h1 h2 => Nat.le_trans h2 h1) (fun _ _ p h => make_links rfl (mkdir_eq _ p ▸ h)) h

/-- an operation other than `link` never adds a symbolic link -/
theorem execOp_links {fs fs' : Fs} {c : Cfg} {op : Op} (hop : ∀ text t, op ≠ .link text t)
    (h : execOp fs c op = some fs') : linkCount fs'.root ≤ linkCount fs.root := by
  cases op with
  | fail => cases h
  | mkdir t => exact mkdirAll_links (execOp_mkdir_some.1 h)
  | link text t => exact absurd rfl (hop text t)
  | copy s t =>
    obtain ⟨k, _, _, h⟩ := execOp_copy_some.1 h
    exact createFile_links h
  | special s t =>
    obtain ⟨k, d, _, ⟨_, h⟩ | ⟨_, _, _, fs1, h1, h⟩⟩ := execOp_special_some.1 h
    · exact make_links rfl (mknod_eq _ t k d ▸ h)
    · exact Nat.le_trans (make_links rfl (mknod_eq _ t k d ▸ h)) (unlink_links h1)

theorem execOps_links (c : Cfg) : ∀ (ops : List Op) (fs : Fs), (∀ op ∈ ops, ∀ text t, op ≠ .link text t) →
    linkCount (execOps fs c ops).fs.root ≤ linkCount fs.root := by
  intro ops
  induction ops with
  | nil => intro fs _; exact Nat.le_refl _
  | cons op r ih =>
    intro fs h
    simp only [execOps]
    split
    · rename_i fs' h1
      exact Nat.le_trans (ih fs' (fun o ho => h o (List.mem_cons_of_mem _ ho)))
        (execOp_links (h op List.mem_cons_self) h1)
    · exact Nat.le_refl _

/-- every operation of the list succeeds when run in sequence -/
def AllSucceed (c : Cfg) : Fs → List Op → Prop
  | _, [] => True
  | fs, op :: r => ∃ fs', execOp fs c op = some fs' ∧ AllSucceed c fs' r

theorem execOps_ok_iff (c : Cfg) : ∀ (ops : List Op) (fs : Fs),
    (execOps fs c ops).exit = .ok ↔ AllSucceed c fs ops := by
  intro ops
  induction ops with
  | nil => intro fs; simp [execOps, AllSucceed]
  | cons op r ih =>
    intro fs
    simp only [execOps, AllSucceed]
    cases he : execOp fs c op with
    | none => simp
    | some fs' => simp [ih fs']

theorem execOps_ok_no_fail (c : Cfg) : ∀ (ops : List Op) (fs : Fs),
    (execOps fs c ops).exit = .ok → ∀ op ∈ ops, op ≠ .fail := by
  intro ops
  induction ops with
  | nil => intro fs _ op hop; cases hop
  | cons o r ih =>
    intro fs h op hop
    simp only [execOps] at h
    cases he : execOp fs c o with
    | none => simp [he] at h
    | some fs' =>
      simp only [he] at h
      cases hop with
      | head => intro hf; subst hf; simp [execOp] at he
      | tail _ hm => exact ih fs' h op hm

end Xcp
