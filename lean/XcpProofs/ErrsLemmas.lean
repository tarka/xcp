import XcpModel.Errs
/-! The `report` table read by classes, and `main`'s exit rule. -/
namespace Xcp.Errs

/-- the table in four classes: a returned `Err` (with or without an update), the pool job that can only send an
update, and the silent sites — `Drop`'s finalisation and the special-file existence probe -/
theorem report_classes (d : Driver) (s : Site) :
    (report d s).ret = true ∨ (d = .parblock ∧ s = .dataCopy ∧ report d s = ⟨true, false⟩) ∨
    (report d s = ⟨false, false⟩ ∧ (isFinalise s = true ∨ s = .specialProbeDest)) := by
  unfold report
  split <;> first
    | exact .inl rfl
    | exact .inr (.inl ⟨rfl, rfl, rfl⟩)
    | exact .inr (.inr ⟨rfl, .inl rfl⟩)
    | exact .inr (.inr ⟨rfl, .inr rfl⟩)

theorem exitNonZero_of_mem {d : Driver} {failed : List Site} {s : Site} (hm : s ∈ failed)
    (h : ((report d s).update || (report d s).ret) = true) : exitNonZero d failed = true :=
  List.any_eq_true.2 ⟨s, hm, h⟩

end Xcp.Errs
