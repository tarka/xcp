import XcpProofs.DerefTreeLemmas
import XcpProofs.Overlay
/-! # `--dereference`, tree level: the destination is the source tree seen through its symbolic links

With `c.dereference = true` (`xcp -r -L`) the walker follows every symbolic link.  `derefS` (DerefTreeLemmas)
computes, from `lstat`/`stat` of the spelled paths alone, the tree an observer sees when every link is followed,
with the canonical path of every node (`SNode`) — or `none`, for the reasons the walker gives up.  When the tree
exists the walk emits exactly its operations, and running them leaves the target overlaid with it, without a symbolic
link; when it does not, the run fails.  What arrives is also described on the source `Node`: `Derefs`, and the
structural `derefNode` when every link leads to a file.

The source may itself be a symbolic link, or lie below symbolic links: `src` only has to be absolute and spelled
with names.  No hypothesis relates sources and destination: in this model the whole walk is computed against the
initial state, in which the destination does not exist, so every canonical path the operations read from exists
there and is automatically neither at/below the fresh target nor above it (`DerefSetup.readsAway`).  For the real,
interleaved walker the model is adequate when, in addition, no directory the walk lists (`SNode.dirs`: the source
directories and the directories reached through links) is the target's parent or above it:
`∀ dc ∈ s.dirs, ¬ dc <+: tb.names` (for a link-free source this is `¬ src.names <+: tb.names` of `mirror_fresh`). -/
namespace Xcp

theorem root_not_link_of_dir {r : Node} {p : List Name} {es : Entries} (h : r.getAt p = some (.dir es)) :
    r.isLink = false := by
  cases p with
  | nil =>
    simp only [getAt_nil, Option.some.injEq] at h
    rw [h]; rfl
  | cons a q =>
    obtain ⟨es', _, he, _, _⟩ := Node.getAt_cons_some h
    rw [he]; rfl

/-- When the tree seen through the links exists (`derefS … = some s`), the dereferencing walk emits exactly its
operations — provided the probe of `--no-clobber` does not fire: the option is off, or nothing exists at or below the
target. -/
theorem walk_shape_deref (fs : Fs) (c : Cfg) (hd : c.dereference = true)
    (hroot : fs.root.isLink = false) (sn0 tn0 : List Name)
    (hn : c.noClobber = false ∨ ∀ rel, fs.lexists (relJoin (plainPath tn0) rel) = false) :
    ∀ (fuel : Nat) (rel : List Name) (anc : List (List Name)) (s : SNode),
      derefS fs fuel (sn0 ++ rel) anc = some s →
      walkEntry fs c none (plainPath sn0) (plainPath tn0) fuel rel anc = opsOfS s (tn0 ++ rel) := by
  intro fuel
  induction fuel with
  | zero => intro rel anc s h; simp [derefS] at h
  | succ f ih =>
    intro rel anc s h
    have hn' : c.noClobber = false ∨ fs.lexists (relJoin (plainPath tn0) rel) = false := hn.imp id (fun h => h rel)
    obtain ⟨lcp, lnode, cp, node, hl, hs, hcase⟩ := derefS_succ_some h
    obtain ⟨_, hg, _, hcan, hl2, _⟩ := stat_canon fs hroot (plainPath _) rfl cp node hs
    have hsa := seenAs_of fs _ lcp cp lnode node hl hs
    rw [← relJoin_plain] at hl hs hcan
    rcases hcase with ⟨k, hnode, hs'⟩ | ⟨k, d, hnode, hk, hs'⟩ | ⟨es, ss, hnode, hloop, hcol, hs'⟩
    · subst hnode; subst hs'
      rw [walkEntry_deref_leaf fs c none hd _ _ _ hn' (Bool.and_false _) _ _ lcp cp lnode _ _ hsa rfl hl hs hcan hl2]
      simp [opsOfS, hereOps, Node.kind, classifyKind, relJoin_plain]
    · subst hnode; subst hs'
      rw [walkEntry_deref_leaf fs c none hd _ _ _ hn' (Bool.and_false _) _ _ lcp cp lnode _ _ hsa rfl hl hs hcan hl2]
      simp [opsOfS, hereOps, Node.kind, classifyKind_special ((okSpecial_iff k).1 hk), relJoin_plain]
    · subst hnode; subst hs'
      rw [walkEntry_deref_dir fs c none hd _ _ _ hn' (Bool.and_false _) _ _ lcp cp lnode es _ hsa hl hs hcan hl2 hloop]
      simp only [opsOfS, relJoin_plain]
      congr 1
      obtain ⟨hnames, hch⟩ := derefS_children fs f (sn0 ++ rel) (cp :: anc) _ ss hcol
      rw [← hnames, List.flatMap_map, opsOfSL_eq_flatMap]
      show (ss.map _).flatten = (ss.map _).flatten
      rw [List.map_congr_left]
      intro e he
      rw [ih (rel ++ [e.1]) (cp :: anc) e.2 (by rw [← List.append_assoc]; exact hch e he), List.append_assoc]

/-- forget where a copy or special operation reads from -/
def Op.dropSrc : Op → Op
  | .copy _ t => .copy ⟨false, [], false⟩ t
  | .special _ t => .special ⟨false, [], false⟩ t
  | o => o

mutual
/-- `opsOfS s` is `opsOf` of the dereferenced tree `s.erase` (from any source place `sn`), up to the paths the copy
and special operations read from: same operations, same targets, same order; no link operation -/
theorem opsOfS_dropSrc : ∀ (s : SNode) (sn tn : List Name),
    (opsOfS s tn).map Op.dropSrc = (opsOf s.erase sn tn).map Op.dropSrc
  | .file _ _, _, _ => by simp [opsOfS, SNode.erase, opsOf, Op.dropSrc]
  | .special _ _ _, _, _ => by simp [opsOfS, SNode.erase, opsOf, Op.dropSrc]
  | .dir _ es, sn, tn => by
    simp only [opsOfS, SNode.erase, opsOf, List.map_cons, Op.dropSrc]
    rw [opsOfSL_dropSrc es sn tn]
theorem opsOfSL_dropSrc : ∀ (es : List (Name × SNode)) (sn tn : List Name),
    (opsOfSL es tn).map Op.dropSrc = (opsOfL (eraseL es) sn tn).map Op.dropSrc
  | [], _, _ => by simp [opsOfSL, eraseL, opsOfL]
  | (m, ch) :: r, sn, tn => by
    simp only [opsOfSL, eraseL, opsOfL, List.map_append]
    rw [opsOfS_dropSrc ch (sn ++ [m]) (tn ++ [m]), opsOfSL_dropSrc r sn tn]
end

/-- every canonical place the operations of the sourced tree `s` read from is neither at/below the target `T` nor above
it.  For a fresh target this is implied (`DerefSetup.readsAway`); for an existing one it excludes `xcp -rL S D` where a
link of `S` leads to a file inside `D/S` (or `D/S` is itself such a file). -/
def ReadsAway (s : SNode) (T : List Name) : Prop := ∀ l ∈ s.leaves, ¬ T <+: l.1 ∧ ¬ l.1 <+: T

instance (s : SNode) (T : List Name) : Decidable (ReadsAway s T) := by
  unfold ReadsAway; infer_instance

theorem ReadsAway.child {T : List Name} {cp : List Name} {es : List (Name × SNode)}
    (h : ReadsAway (.dir cp es) T) {m : Name} {ch : SNode} (hmem : (m, ch) ∈ es) : ReadsAway ch (T ++ [m]) := by
  intro l hl
  obtain ⟨u1, u2⟩ := h l (by simp only [SNode.leaves]; exact leavesL_mem es m ch hmem l hl)
  refine ⟨fun hh => u1 ((List.prefix_append T [m]).trans hh), ?_⟩
  intro hh
  rcases List.prefix_concat_iff.1 hh with hh | hh
  · exact u1 (hh ▸ List.prefix_append _ _)
  · exact u2 hh

/-- Running the operations of a sourced tree, all of whose leaves are found in the state at their canonical places —
places out of the way of the target —, towards a compatible place `par ++ [nm]` below an existing directory leaves
exactly `placeAt` of the erased tree there.  A directory onto an absent place is first made, empty, and then overlaid
like an existing one. -/
theorem exec_overlayS (c : Cfg) (hn : c.noClobber = false) :
    ∀ (d : Nat) (s : SNode), s.erase.Copyable d →
      ∀ (g : Fs) (par : List Name) (nm : Name) (pes : Entries) (rest : List Op),
      SrcIn g.root s → ReadsAway s (par ++ [nm]) →
      g.root.getAt par = some (.dir pes) → (pes.map (·.1)).Nodup →
      (∀ x, g.root.getAt (par ++ [nm]) = some x → x.WF) →
      Compatible (g.root.getAt (par ++ [nm])) s.erase →
      par.length + 1 + d < 256 →
      execOps g c (opsOfS s (par ++ [nm]) ++ rest) =
        execOps { g with root := placeAt g.root (par ++ [nm]) (g.root.getAt (par ++ [nm])) s.erase } c rest := by
  intro d s hcop
  refine copyable_induction
    (P := fun n d => ∀ s : SNode, s.erase = n →
      ∀ (g : Fs) (par : List Name) (nm : Name) (pes : Entries) (rest : List Op),
      SrcIn g.root s → ReadsAway s (par ++ [nm]) →
      g.root.getAt par = some (.dir pes) → (pes.map (·.1)).Nodup →
      (∀ x, g.root.getAt (par ++ [nm]) = some x → x.WF) →
      Compatible (g.root.getAt (par ++ [nm])) s.erase →
      par.length + 1 + d < 256 →
      execOps g c (opsOfS s (par ++ [nm]) ++ rest) =
        execOps { g with root := placeAt g.root (par ++ [nm]) (g.root.getAt (par ++ [nm])) s.erase } c rest)
    ?_ ?_ d s.erase hcop s rfl
  · intro n d hnd _ s hs g par nm pes rest hsrc haway hp hpn _ hc hl2
    have hpl : par.length + 1 < 256 := Nat.lt_of_add_right_lt hl2
    cases s with
    | dir cp es =>
      subst hs
      simp [SNode.erase, Node.isDir] at hnd
    | file cp k =>
      obtain ⟨hg, _, hlen⟩ := hsrc (cp, .file k) (by simp [SNode.leaves])
      exact exec_leaf c (.file k) rfl g cp par nm pes rest hg hp (fun _ _ => ⟨hn, hpn⟩) hc
        (fun e => (haway (cp, .file k) (by simp [SNode.leaves])).2 (e ▸ List.prefix_refl _)) hlen hpl
    | special cp k dv =>
      obtain ⟨hg, _, hlen⟩ := hsrc (cp, .special k dv) (by simp [SNode.leaves])
      exact exec_leaf c (.special k dv) rfl g cp par nm pes rest hg hp (fun _ _ => ⟨hn, hpn⟩) hc
        (fun e => (haway (cp, .special k dv) (by simp [SNode.leaves])).2 (e ▸ List.prefix_refl _)) hlen hpl
  · intro es d hndp _ ih s hs g par nm pes rest hsrc haway hp hpn hw hc hl2
    cases s with
    | file cp k => cases hs
    | special cp k dv => cases hs
    | dir cp ss =>
      simp only [SNode.erase, Node.dir.injEq] at hs
      subst hs
      rw [eraseL_names] at hndp
      simp only [SNode.erase] at hc ⊢
      rw [eraseL_eq_map] at hc ⊢
      rw [opsOfS, List.cons_append, opsOfSL_eq_flatMap]
      have h := exec_dir c g par nm pes hp (Nat.lt_of_add_right_lt hl2) (·.1) (·.2.erase)
        (fun e => opsOfS e.2 (par ++ [nm] ++ [e.1])) rest ss hndp hw hc ?_
      · exact h
      intro e hmem acc rest' hna hwx hcx
      refine ih (e.1, e.2.erase) (eraseL_mem ss e.1 e.2 hmem) e.2 rfl
        { g with root := g.root.setAt (par ++ [nm]) (.dir acc) } (par ++ [nm]) e.1 acc rest' ?_ (haway.child hmem)
        (getAt_setAt_child _ nm par g.root pes hp) hna (fun x hx => (hwx x hx).1) hcx (length_child_lt' par nm hl2)
      intro l hl
      have hlm : l ∈ (SNode.dir cp ss).leaves := by
        simp only [SNode.leaves]; exact leavesL_mem ss e.1 e.2 hmem l hl
      obtain ⟨a1, a2, a3⟩ := hsrc l hlm
      obtain ⟨u1, u2⟩ := haway l hlm
      exact ⟨by rw [getAt_setAt_unrelated _ _ _ _ u1 u2]; exact a1, a2, a3⟩

/-- an absolute path spelled with names only (no `.`, `..`, trailing slash); nothing is asked about links -/
def AbsNames (p : RPath) : Prop := p.abs = true ∧ p.trail = false ∧ ∀ c ∈ p.comps, ∃ n, c = .name n

theorem absNames_eq {p : RPath} (h : AbsNames p) : p = plainPath p.names := by
  obtain ⟨ha, ht, hc⟩ := h
  cases p with
  | mk abs comps trail =>
    simp only at ha ht hc
    subst ha; subst ht
    simp only [plainPath]
    rw [← comps_eq_map_names true false comps hc]

theorem deref_walk (fs : Fs) (c : Cfg) (hd : c.dereference = true) (src tb : RPath) (s : SNode) (fuel : Nat)
    (hwf : fs.root.WF) (hroot : fs.root.isLink = false)
    (hsrc : AbsNames src) (hder : derefS fs fuel src.names [] = some s) (htb : PlainTarget fs tb)
    (hn : c.noClobber = false ∨ ∀ rel, fs.lexists (relJoin (plainPath tb.names) rel) = false) :
    walkEntry fs c none src tb fuel [] [] = opsOfS s tb.names ∧ s.erase.Copyable fuel ∧ SrcIn fs.root s := by
  have h := walk_shape_deref fs c hd hroot src.names tb.names hn fuel [] [] s
    (by rw [List.append_nil]; exact hder)
  rw [← plainTarget_eq fs tb htb, ← absNames_eq hsrc, List.append_nil] at h
  exact ⟨h, derefS_good fs hroot hwf fuel src.names [] s hder⟩

/-- what the single-source `-L` theorems assume: the source is absolute, spelled with names only, no trailing slash
(`AbsNames`) — symbolic links at it or above it are allowed and followed; `s` is the tree seen from it through all
links; the target base `tb` is a plain path other than the root whose parent is a directory.  `len`: the walk runs
with `fuel + 1`, so the bound of `CopySetup` (256, from `resolveFuel`) reads 255 here. -/
structure DerefSetup (fs : Fs) (src tb : RPath) (s : SNode) (fuel : Nat) : Prop where
  wf : FsEq fs fs
  abs : AbsNames src
  der : derefS fs (fuel + 1) src.names [] = some s
  tbPlain : PlainTarget fs tb
  ne : tb.names ≠ []
  par : ParentDir fs.root tb.names
  len : tb.names.length + fuel < 255

/-- What the run reads is out of the way of what it writes, for free, when the target is fresh: every canonical path
an operation reads from is neither at/below the target nor above it (it exists, the target does not). -/
theorem DerefSetup.readsAway {fs : Fs} {src tb : RPath} {s : SNode} {fuel : Nat} (H : DerefSetup fs src tb s fuel)
    (habs : fs.root.getAt tb.names = none) : ReadsAway s tb.names := by
  obtain ⟨pes, hpes⟩ := H.par
  rcases List.eq_nil_or_concat tb.names with h0 | ⟨par, nm, h0⟩
  · exact absurd h0 H.ne
  simp only [List.concat_eq_append] at h0
  rw [h0, List.dropLast_concat] at hpes
  rw [h0] at habs ⊢
  intro l hl
  obtain ⟨h1, h2, _⟩ := (derefS_good fs (root_not_link_of_dir hpes) H.wf.2.1 _ src.names [] s H.der).2 l hl
  exact src_unrel h1 h2 hpes habs

/-- The target may exist, provided what is there is `Compatible` with
`s.erase` and no operation reads from a place at, below or above it (`ReadsAway`).  Then the walk's operations all
succeed and the destination is overlaid with the tree seen through the links, nothing else changes (up to the order
of directory entries). -/
theorem overlay_deref {fs : Fs} {src tb : RPath} {s : SNode} {fuel : Nat} (H : DerefSetup fs src tb s fuel)
    (c : Cfg) (hd : c.dereference = true) (hn : c.noClobber = false)
    (hcompat : Compatible (fs.root.getAt tb.names) s.erase) (hout : ReadsAway s tb.names) :
    ∃ fs', execOps fs c (walkEntry fs c none src tb (fuel + 1) [] []) = ⟨.ok, fs'⟩ ∧
      FsEq fs' { fs with root := fs.root.setAt tb.names (Node.overlay (fs.root.getAt tb.names) s.erase) } := by
  obtain ⟨hwf, hsrc, hder, htb, hne, hpar, hlen⟩ := H
  obtain ⟨pes, hpes⟩ := hpar
  rcases List.eq_nil_or_concat tb.names with h0 | ⟨par, nm, h0⟩
  · exact absurd h0 hne
  simp only [List.concat_eq_append] at h0
  rw [h0, List.dropLast_concat] at hpes
  obtain ⟨hshape, hcop, hsrcin⟩ := deref_walk fs c hd src tb s (fuel + 1) hwf.2.1 (root_not_link_of_dir hpes) hsrc
    hder htb (.inl hn)
  have hexec := exec_overlayS c hn (fuel + 1) s hcop fs par nm pes [] hsrcin (h0 ▸ hout) hpes (hwf.2.1 par pes hpes)
    (fun x hx q es hq => hwf.2.1 (par ++ [nm] ++ q) es (by rw [Node.getAt_append, hx]; exact hq))
    (h0 ▸ hcompat) (by rw [h0, List.length_append] at hlen; exact Nat.succ_lt_succ hlen)
  rw [List.append_nil, ← h0] at hexec
  have hrun : execOps fs c (walkEntry fs c none src tb (fuel + 1) [] []) =
      ⟨.ok, { fs with root := placeAt fs.root tb.names (fs.root.getAt tb.names) s.erase }⟩ := by
    rw [hshape, hexec]
    rfl
  exact ⟨_, hrun, fsEq_placeAt hwf.2.1
    ⟨pes, by rw [h0, List.dropLast_concat]; exact hpes⟩ _ (execOps_wf c _ fs _ hwf hrun).2.1⟩

/-- The case of an absent target, where `ReadsAway` holds for
free.  The resulting tree is the old one with the dereferenced tree `s.erase` placed at `tb`. -/
theorem mirror_fresh_deref {fs : Fs} {src tb : RPath} {s : SNode} {fuel : Nat} (H : DerefSetup fs src tb s fuel)
    (c : Cfg) (hd : c.dereference = true) (hn : c.noClobber = false) (habs : fs.root.getAt tb.names = none) :
    ∃ fs', execOps fs c (walkEntry fs c none src tb (fuel + 1) [] []) = ⟨.ok, fs'⟩ ∧
      FsEq fs' { fs with root := fs.root.setAt tb.names s.erase } := by
  have h := overlay_deref H c hd hn (by rw [habs]; exact compatible_none _) (H.readsAway habs)
  rw [habs, overlay_none] at h
  exact h

/-- no symbolic link at or below the destination: in a state observed like the old tree with a dereferenced tree at
`T`, whatever is found at `T` or at any path below it is not a symbolic link -/
theorem no_link_in_destination {r r' : Node} {T : List Name} {s : SNode}
    (heq : SameObs r' (r.setAt T s.erase))
    (hpar : ParentDir r T) :
    ∀ q x, r'.getAt (T ++ q) = some x → x.isLink = false := by
  intro q x hx
  cases x with
  | link t =>
    have hso := heq (T ++ q)
    rw [(getAt_link_iff _ _ _).1 hx] at hso
    have hl2 := (getAt_link_iff _ _ t).2 hso.symm
    rw [getAt_setAt_below r T _ hpar] at hl2
    exact erase_getAt_not_link q s _ hl2
  | _ => rfl

/-! ## The restricted case as a function of the source `Node`: every link leads to a file

For a source tree `n` found at a plain place `loc` (so: no link above it; `n` itself may be a link) in which every
symbolic link — wherever it points: inside or outside the tree, relative or absolute text, through any chain of
links — ends at a regular file or a special file, the walk never descends through a link, there is no loop to
detect, and the dereferenced tree is the structural function `derefNode` of `n`: each link replaced by the file
`stat` finds at the link's own place. -/

mutual
/-- `n`, found at the place `loc`, with every symbolic link replaced by the regular (or special) file it leads to;
`none` if some link does not resolve, leads to a special file of a kind xcp does not copy, or leads to a directory
(the case this restricted form does not cover) -/
def derefNode (fs : Fs) : Node → List Name → Option Node
  | .file k, _ => some (.file k)
  | .special k d, _ => some (.special k d)
  | .dir es, loc => (derefNodeL fs es loc).map .dir
  | .link _, loc =>
    match fs.stat (plainPath loc) with
    | some (_, .file k) => some (.file k)
    | some (_, .special k d) => if okSpecial k then some (.special k d) else none
    | _ => none
def derefNodeL (fs : Fs) : List (Name × Node) → List Name → Option (List (Name × Node))
  | [], _ => some []
  | (m, ch) :: r, loc =>
    match derefNode fs ch (loc ++ [m]), derefNodeL fs r loc with
    | some x, some xs => some ((m, x) :: xs)
    | _, _ => none
end

theorem derefNodeL_cons_some {fs : Fs} {m : Name} {ch : Node} {r : List (Name × Node)} {loc : List Name}
    {ml : List (Name × Node)} (h : derefNodeL fs ((m, ch) :: r) loc = some ml) :
    ∃ x xs, derefNode fs ch (loc ++ [m]) = some x ∧ derefNodeL fs r loc = some xs ∧ ml = (m, x) :: xs := by
  simp only [derefNodeL] at h
  split at h
  · rename_i x xs h1 h2
    injection h with h
    exact ⟨x, xs, h1, h2, h.symm⟩
  · cases h

mutual
/-- the trees the restricted form covers: every symbolic link of `n` (found at `loc`), at any depth, resolves
(`stat` at the link's own place succeeds: not dangling, no endless chain) to something that is not a directory
(and, if a special file, of a kind xcp copies) -/
def Node.LinksToFiles (fs : Fs) : Node → List Name → Prop
  | .link _, loc => ∃ cp x, fs.stat (plainPath loc) = some (cp, x) ∧ x.isDir = false ∧
      ∀ k d, x = .special k d → okSpecial k = true
  | .dir es, loc => LinksToFilesL fs es loc
  | .file _, _ => True
  | .special _ _, _ => True
def LinksToFilesL (fs : Fs) : List (Name × Node) → List Name → Prop
  | [], _ => True
  | (m, ch) :: r, loc => ch.LinksToFiles fs (loc ++ [m]) ∧ LinksToFilesL fs r loc
end

mutual
theorem derefNode_isSome_iff (fs : Fs) (hroot : fs.root.isLink = false) : ∀ (n : Node) (loc : List Name),
    (∃ m, derefNode fs n loc = some m) ↔ n.LinksToFiles fs loc
  | .file k, loc => by simp [derefNode, Node.LinksToFiles]
  | .special k d, loc => by simp [derefNode, Node.LinksToFiles]
  | .link t, loc => by
    simp only [derefNode, Node.LinksToFiles]
    constructor
    · rintro ⟨m, h⟩
      split at h
      · rename_i cp k hs; exact ⟨cp, _, hs, rfl, fun _ _ he => by cases he⟩
      · rename_i cp k d hs
        split at h
        · rename_i hk
          exact ⟨cp, _, hs, rfl, fun k' d' he => by injection he with e1 _; subst e1; exact hk⟩
        · cases h
      · cases h
    · rintro ⟨cp, x, hs, hx, hsp⟩
      have hnl := (stat_canon fs hroot (plainPath loc) rfl cp x hs).1
      cases x with
      | file k => exact ⟨.file k, by simp [hs]⟩
      | special k d => exact ⟨.special k d, by simp [hs, hsp k d rfl]⟩
      | dir es => cases hx
      | link t' => cases hnl
  | .dir es, loc => by
    simp only [derefNode, Node.LinksToFiles]
    rw [← derefNodeL_isSome_iff fs hroot es loc]
    constructor
    · rintro ⟨m, h⟩
      cases hml : derefNodeL fs es loc with
      | none => simp [hml] at h
      | some ml => exact ⟨ml, rfl⟩
    · rintro ⟨ml, h⟩
      exact ⟨.dir ml, by simp [h]⟩
theorem derefNodeL_isSome_iff (fs : Fs) (hroot : fs.root.isLink = false) :
    ∀ (es : List (Name × Node)) (loc : List Name),
    (∃ ml, derefNodeL fs es loc = some ml) ↔ LinksToFilesL fs es loc
  | [], loc => by simp [derefNodeL, LinksToFilesL]
  | (j, c) :: r, loc => by
    simp only [LinksToFilesL]
    rw [← derefNode_isSome_iff fs hroot c (loc ++ [j]), ← derefNodeL_isSome_iff fs hroot r loc]
    constructor
    · rintro ⟨ml, h⟩
      obtain ⟨x, xs, h1, h2, _⟩ := derefNodeL_cons_some h
      exact ⟨⟨x, h1⟩, ⟨xs, h2⟩⟩
    · rintro ⟨⟨x, h1⟩, ⟨xs, h2⟩⟩
      exact ⟨(j, x) :: xs, by simp [derefNodeL, h1, h2]⟩
end

/-- Where the structural `derefNode` succeeds on the tree `n` found at the plain place `loc`, so does `derefS`, with the
same tree.  By induction on `n`: a leaf is read off `lstat`/`stat` of `loc`; for a directory the entries are taken one
by one (`key`, an induction over a part `l` of the entry list), each with the induction hypothesis at `loc ++ [k]`. -/
theorem derefS_of_derefNode (fs : Fs) :
    ∀ (d : Nat) (n m : Node) (loc : List Name) (anc : List (List Name)),
      fs.root.getAt loc = some n → n.Copyable d → derefNode fs n loc = some m → loc.length + d < 256 →
      ∃ s, derefS fs (d + 1) loc anc = some s ∧ s.erase = m := by
  intro d n m loc anc hg hc
  revert m loc anc
  refine copyable_induction (P := fun n d => ∀ (m : Node) (loc : List Name) (anc : List (List Name)),
    fs.root.getAt loc = some n → derefNode fs n loc = some m → loc.length + d < 256 →
    ∃ s, derefS fs (d + 1) loc anc = some s ∧ s.erase = m) ?_ ?_ d n hc
  · intro n d hnd hc m loc anc hg hdn hlen
    have hl := lstat_of_getAt fs loc n (le_256_of_lt (Nat.lt_of_add_right_lt hlen)) hg
    cases n with
    | dir es => cases hnd
    | file k =>
      have hs := stat_of_lstat_nonlink fs (plainPath loc) loc _ hl rfl
      simp only [derefNode, Option.some.injEq] at hdn
      subst hdn
      exact ⟨.file loc k, by simp [derefS, hl, hs], rfl⟩
    | special k dv =>
      have hs := stat_of_lstat_nonlink fs (plainPath loc) loc _ hl rfl
      simp only [derefNode, Option.some.injEq] at hdn
      subst hdn
      have hk : okSpecial k = true := (okSpecial_iff k).2 (by simpa [Node.Copyable] using hc)
      exact ⟨.special loc k dv, by simp [derefS, hl, hs, hk], rfl⟩
    | link t =>
      simp only [derefNode] at hdn
      split at hdn
      · rename_i cp k hs
        injection hdn with hdn
        subst hdn
        exact ⟨.file cp k, by simp [derefS, hl, hs], rfl⟩
      · rename_i cp k dv hs
        split at hdn
        · rename_i hk
          injection hdn with hdn
          subst hdn
          exact ⟨.special cp k dv, by simp [derefS, hl, hs, hk], rfl⟩
        · cases hdn
      · cases hdn
  · intro es d hndp _ ih m loc anc hg hdn hlen
    have hl := lstat_of_getAt fs loc _ (le_256_of_lt (Nat.lt_of_add_right_lt hlen)) hg
    have hs := stat_of_lstat_nonlink fs (plainPath loc) loc _ hl rfl
    simp only [derefNode] at hdn
    cases hml : derefNodeL fs es loc with
    | none => simp [hml] at hdn
    | some ml =>
      simp only [hml, Option.map_some, Option.some.injEq] at hdn
      subst hdn
      have key : ∀ (l : List (Name × Node)) (ml' : List (Name × Node)), (∀ e ∈ l, e ∈ es) →
          derefNodeL fs l loc = some ml' →
          ∃ ss, collect (fun k => (derefS fs (d + 1) (loc ++ [k]) (loc :: anc)).map fun x => (k, x))
              (l.map (·.1)) = some ss ∧ eraseL ss = ml' := by
        intro l
        induction l with
        | nil =>
          intro ml' _ h
          simp only [derefNodeL, Option.some.injEq] at h
          subst h
          exact ⟨[], by simp [collect], by simp [eraseL]⟩
        | cons e r ihl =>
          intro ml' hsub h
          obtain ⟨k, ch⟩ := e
          obtain ⟨x, xs, h1, h2, h3⟩ := derefNodeL_cons_some h
          subst h3
          have hmem : (k, ch) ∈ es := hsub _ List.mem_cons_self
          have hget : fs.root.getAt (loc ++ [k]) = some ch := by
            rw [Node.getAt_append, hg]
            simp [getAt_dir_cons, entGet_of_mem es hndp (k, ch) hmem]
          obtain ⟨sc, hsc, hse⟩ := ih (k, ch) hmem x (loc ++ [k]) (loc :: anc) hget h1
            (length_child_lt loc k hlen)
          obtain ⟨ss, hss, hes⟩ := ihl xs (fun e he => hsub e (List.mem_cons_of_mem _ he)) h2
          refine ⟨(k, sc) :: ss, ?_, by simp [eraseL, hse, hes]⟩
          simp only [List.map_cons, collect, hsc, Option.map_some]
          rw [hss]
      obtain ⟨ss, hss, hes⟩ := key es ml (fun _ h => h) hml
      refine ⟨.dir loc ss, ?_, by simp [SNode.erase, hes]⟩
      rw [derefS_dir hl hs rfl, hss]
      rfl

/-! ## The general case in terms of the source `Node`: every link replaced by what it leads to

`derefS` is defined from `lstat`/`stat` of spelled paths (which go through the links being followed).  `Derefs` is
the structural reading on canonical places: a file or special node stays, a directory has the same names and
every entry dereferenced at its own place, a symbolic link is replaced by what `stat` finds at the link's place,
dereferenced in turn at the canonical place found.  Whenever `derefS` succeeds the two agree. -/

/-- `Derefs fs loc n m`: `m` is the node `n`, found at the canonical place `loc`, with every symbolic link — at any
depth, and again inside the directories links lead to — replaced by what it points to. -/
inductive Derefs (fs : Fs) : List Name → Node → Node → Prop
  | file (loc : List Name) (k : Nat) : Derefs fs loc (.file k) (.file k)
  | special (loc : List Name) (k : FileKind) (d : Nat) : Derefs fs loc (.special k d) (.special k d)
  | dir (loc : List Name) (es es' : List (Name × Node)) :
      es'.map (·.1) = es.map (·.1) →
      (∀ k ch x, entGet es k = some ch → entGet es' k = some x → Derefs fs (loc ++ [k]) ch x) →
      Derefs fs loc (.dir es) (.dir es')
  | link (loc : List Name) (t : RPath) (cp : List Name) (x m : Node) :
      fs.stat (plainPath loc) = some (cp, x) → Derefs fs cp x m → Derefs fs loc (.link t) m

theorem derefS_some_lstat {fs : Fs} {f : Nat} {path : List Name} {anc : List (List Name)} {s : SNode}
    (h : derefS fs f path anc = some s) : ∃ lc lx, fs.lstat (plainPath path) = some (lc, lx) := by
  cases f with
  | zero => simp [derefS] at h
  | succ g =>
    obtain ⟨lc, lx, _, _, hl, _, _⟩ := derefS_succ_some h
    exact ⟨lc, lx, hl⟩

/-- the tree seen through the links from `path` is the node `lstat` finds there, dereferenced -/
theorem derefS_derefs (fs : Fs) (hroot : fs.root.isLink = false) :
    ∀ (fuel : Nat) (path : List Name) (anc : List (List Name)) (s : SNode) (loc : List Name) (n : Node),
      derefS fs fuel path anc = some s → fs.lstat (plainPath path) = some (loc, n) →
      Derefs fs loc n s.erase := by
  intro fuel
  induction fuel with
  | zero => intro path anc s loc n h; simp [derefS] at h
  | succ f ih =>
    intro path anc s loc n h hl
    obtain ⟨lcp, lnode, cp, node, hl', hs, hcase⟩ := derefS_succ_some h
    rw [hl] at hl'
    injection hl' with hl'
    injection hl' with e1 e2
    subst e1; subst e2
    -- what `stat` found, dereferenced at its canonical place
    have core : Derefs fs cp node s.erase := by
      rcases hcase with ⟨k, hnode, hs'⟩ | ⟨k, d, hnode, _, hs'⟩ | ⟨es, ss, hnode, _, hcol, hs'⟩
      · subst hnode; subst hs'
        exact Derefs.file cp k
      · subst hnode; subst hs'
        exact Derefs.special cp k d
      · subst hnode; subst hs'
        obtain ⟨hnames, hch⟩ := derefS_children fs f path (cp :: anc) _ ss hcol
        simp only [SNode.erase]
        refine Derefs.dir cp es (eraseL ss) (by rw [eraseL_names, hnames]) ?_
        intro k ch x hek hex
        obtain ⟨chs, hmem, hx⟩ := mem_eraseL ss (k, x) (entGet_mem hex)
        simp only at hx
        subst hx
        have hd := hch (k, chs) hmem
        simp only at hd
        obtain ⟨lc, lx, hlx⟩ := derefS_some_lstat hd
        obtain ⟨hlc, hget⟩ := lstat_child fs (plainPath path) cp lc k es lx hs (by simpa [plainPath] using hlx)
        rw [hek] at hget
        injection hget with hget
        subst hget; subst hlc
        exact ih _ _ _ _ _ hd hlx
    rcases seenAs_of fs path loc cp n node hl hs with hsa | ⟨t, hsa⟩
    · subst hsa
      have hnl : n.isLink = false := (stat_canon fs hroot (plainPath path) rfl cp n hs).1
      have := stat_of_lstat_nonlink fs (plainPath path) loc n hl hnl
      rw [hs] at this
      injection this with this
      injection this with e1 _
      subst e1
      exact core
    · subst hsa
      exact Derefs.link loc t cp node _ (stat_at_link_place fs path loc cp t node hl hs) core

/-- in a file system whose directories list no name twice, `Derefs` is a partial function of the place -/
theorem Derefs.unique {fs : Fs} (hwf : fs.root.WF) {loc : List Name} {n m : Node} (h : Derefs fs loc n m) :
    ∀ m', fs.root.getAt loc = some n → Derefs fs loc n m' → m = m' := by
  induction h with
  | file loc k => intro m' _ h'; cases h'; rfl
  | special loc k d => intro m' _ h'; cases h'; rfl
  | dir loc es es1 hnames _ ih =>
    intro m' hg h'
    cases h' with
    | dir _ _ es2 hnames2 hch2 =>
      have hnd : (es.map (·.1)).Nodup := hwf loc es hg
      congr 1
      refine entries_ext es1 es2 (by rw [hnames, hnames2]) (by rw [hnames]; exact hnd) ?_
      intro k x1 x2 h1 h2
      obtain ⟨e, hmem, rfl⟩ := List.mem_map.1 (hnames ▸ key_of_entGet h1)
      have hek := entGet_of_mem es hnd e hmem
      have hgc : fs.root.getAt (loc ++ [e.1]) = some e.2 := by
        rw [Node.getAt_append, hg]
        simp [getAt_dir_cons, hek]
      exact ih e.1 e.2 x1 hek h1 x2 hgc (hch2 e.1 e.2 x2 hek h2)
  | link loc t cp x m hs _ ih =>
    intro m' _ h'
    cases h' with
    | link _ _ cp' x' _ hs' hd' =>
      rw [hs] at hs'
      injection hs' with hs'
      injection hs' with e1 e2
      subst e1; subst e2
      exact ih m' (stat_some hs).2 hd'

mutual
/-- the restricted structural function agrees with the general relation -/
theorem derefNode_derefs (fs : Fs) : ∀ (n : Node) (loc : List Name) (m : Node),
    derefNode fs n loc = some m → Derefs fs loc n m
  | .file k, loc, m, h => by
    simp only [derefNode, Option.some.injEq] at h
    subst h
    exact Derefs.file loc k
  | .special k d, loc, m, h => by
    simp only [derefNode, Option.some.injEq] at h
    subst h
    exact Derefs.special loc k d
  | .link t, loc, m, h => by
    simp only [derefNode] at h
    split at h
    · rename_i cp k hs
      injection h with h
      subst h
      exact Derefs.link loc t cp _ _ hs (Derefs.file cp k)
    · rename_i cp k d hs
      split at h
      · injection h with h
        subst h
        exact Derefs.link loc t cp _ _ hs (Derefs.special cp k d)
      · cases h
    · cases h
  | .dir es, loc, m, h => by
    simp only [derefNode] at h
    cases hml : derefNodeL fs es loc with
    | none => simp [hml] at h
    | some ml =>
      simp only [hml, Option.map_some, Option.some.injEq] at h
      subst h
      obtain ⟨h1, h2⟩ := derefNodeL_derefs fs es loc ml hml
      exact Derefs.dir loc es ml h1 h2
theorem derefNodeL_derefs (fs : Fs) : ∀ (es : List (Name × Node)) (loc : List Name) (ml : List (Name × Node)),
    derefNodeL fs es loc = some ml →
    ml.map (·.1) = es.map (·.1) ∧
      ∀ k ch x, entGet es k = some ch → entGet ml k = some x → Derefs fs (loc ++ [k]) ch x
  | [], loc, ml, h => by
    simp only [derefNodeL, Option.some.injEq] at h
    subst h
    exact ⟨rfl, fun k ch x hk => by simp [entGet] at hk⟩
  | (j, c) :: r, loc, ml, h => by
    obtain ⟨x, xs, h1, h2, h3⟩ := derefNodeL_cons_some h
    subst h3
    obtain ⟨i1, i2⟩ := derefNodeL_derefs fs r loc xs h2
    refine ⟨by simp [i1], ?_⟩
    intro k ch y hk hy
    by_cases hj : j = k
    · subst hj
      simp only [entGet, if_true, Option.some.injEq] at hk hy
      subst hk; subst hy
      exact derefNode_derefs fs c (loc ++ [j]) x h1
    · simp only [entGet, hj, if_false] at hk hy
      exact i2 k ch y hk hy
end

mutual
theorem derefNode_copyable (fs : Fs) : ∀ (n : Node) (d : Nat) (loc : List Name) (m : Node),
    n.Copyable d → derefNode fs n loc = some m → m.Copyable d
  | .file k, d, loc, m, _, h => by
    simp only [derefNode, Option.some.injEq] at h
    subst h; simp [Node.Copyable]
  | .special k dv, d, loc, m, hc, h => by
    simp only [derefNode, Option.some.injEq] at h
    subst h; exact hc
  | .link t, d, loc, m, _, h => by
    simp only [derefNode] at h
    split at h
    · injection h with h
      subst h; simp [Node.Copyable]
    · rename_i cp k dv hs
      split at h
      · rename_i hk
        injection h with h
        subst h
        simpa [Node.Copyable] using (okSpecial_iff k).1 hk
      · cases h
    · cases h
  | .dir es, d, loc, m, hc, h => by
    cases d with
    | zero => simp [Node.Copyable] at hc
    | succ d' =>
      simp only [Node.Copyable] at hc
      simp only [derefNode] at h
      cases hml : derefNodeL fs es loc with
      | none => simp [hml] at h
      | some ml =>
        simp only [hml, Option.map_some, Option.some.injEq] at h
        subst h
        simp only [Node.Copyable]
        exact ⟨by rw [(derefNodeL_derefs fs es loc ml hml).1]; exact hc.1,
          derefNodeL_copyable fs es d' loc ml hc.2 hml⟩
theorem derefNodeL_copyable (fs : Fs) : ∀ (es : List (Name × Node)) (d : Nat) (loc : List Name)
    (ml : List (Name × Node)),
    Node.Copyable.CopyableL es d → derefNodeL fs es loc = some ml → Node.Copyable.CopyableL ml d
  | [], d, loc, ml, _, h => by
    simp only [derefNodeL, Option.some.injEq] at h
    subst h; simp [Node.Copyable.CopyableL]
  | (j, c) :: r, d, loc, ml, hc, h => by
    obtain ⟨x, xs, h1, h2, h3⟩ := derefNodeL_cons_some h
    subst h3
    simp only [Node.Copyable.CopyableL] at hc ⊢
    exact ⟨derefNode_copyable fs c d (loc ++ [j]) x hc.1 h1, derefNodeL_copyable fs r d loc xs hc.2 h2⟩
end

/-- The general case, in terms of the source node: `src` designates (`lstat`) the node
`srcNode` at the canonical place `loc`; the tree seen through the links exists.  The run succeeds and the
destination receives a tree `m` that is `srcNode` with every symbolic link replaced by what it leads to
(`Derefs`); nothing at or below the destination is a symbolic link. -/
theorem mirror_fresh_deref_replaced {fs : Fs} {src tb : RPath} {s : SNode} {fuel : Nat}
    (H : DerefSetup fs src tb s fuel) (c : Cfg) (hd : c.dereference = true) (hn : c.noClobber = false)
    (loc : List Name) (srcNode : Node) (hsl : fs.lstat src = some (loc, srcNode))
    (habs : fs.root.getAt tb.names = none) :
    ∃ fs' m, execOps fs c (walkEntry fs c none src tb (fuel + 1) [] []) = ⟨.ok, fs'⟩ ∧
      Derefs fs loc srcNode m ∧
      FsEq fs' { fs with root := fs.root.setAt tb.names m } ∧
      ∀ q x, fs'.root.getAt (tb.names ++ q) = some x → x.isLink = false := by
  obtain ⟨fs', hex, heq⟩ := mirror_fresh_deref H c hd hn habs
  have hnl := no_link_in_destination heq.2.2.2 H.par
  have hroot : fs.root.isLink = false := by
    obtain ⟨pes, hpes⟩ := H.par
    exact root_not_link_of_dir hpes
  rw [absNames_eq H.abs] at hsl
  exact ⟨fs', s.erase, hex, derefS_derefs fs hroot _ _ _ s loc srcNode H.der hsl, heq, hnl⟩

/-- The restricted case, from the predicate: a copyable source tree at a plain place, all of
whose links lead to files (`Node.LinksToFiles`).  The run succeeds; the destination receives `derefNode` of the
source — every link replaced by the file it leads to — and holds no symbolic link. -/
theorem mirror_fresh_deref_links_to_files (fs : Fs) (c : Cfg) (hd : c.dereference = true)
    (hn : c.noClobber = false) (src tb : RPath) (srcNode : Node) (fuel : Nat)
    (hwf : FsEq fs fs)
    (hsrc : AbsNames src) (hsn : fs.root.getAt src.names = some srcNode)
    (hcop : srcNode.Copyable fuel) (hltf : srcNode.LinksToFiles fs src.names)
    (htb : PlainTarget fs tb) (hne : tb.names ≠ []) (habs : fs.root.getAt tb.names = none)
    (hpar : ∃ es, fs.root.getAt tb.names.dropLast = some (.dir es))
    (hlen : src.names.length + fuel < 255 ∧ tb.names.length + fuel < 255) :
    ∃ fs' m, derefNode fs srcNode src.names = some m ∧
      execOps fs c (walkEntry fs c none src tb (fuel + 1) [] []) = ⟨.ok, fs'⟩ ∧
      FsEq fs' { fs with root := fs.root.setAt tb.names m } ∧
      ∀ q x, fs'.root.getAt (tb.names ++ q) = some x → x.isLink = false := by
  have hroot : fs.root.isLink = false := by
    obtain ⟨pes, hpes⟩ := hpar
    exact root_not_link_of_dir hpes
  obtain ⟨m, hm⟩ := (derefNode_isSome_iff fs hroot srcNode src.names).2 hltf
  obtain ⟨s, hs, hse⟩ := derefS_of_derefNode fs fuel srcNode m src.names [] hsn hcop hm (by omega)
  obtain ⟨fs', hex, heq⟩ := mirror_fresh_deref ⟨hwf, hsrc, hs, htb, hne, hpar, hlen.2⟩ c hd hn habs
  exact ⟨fs', m, hm, hex, hse ▸ heq, no_link_in_destination heq.2.2.2 hpar⟩

/-! ## Completeness: no tree, no copy

`derefS` answers `none` exactly for the reasons the walker gives up: when the tree seen through the links does
not exist the walk contains the failure marker and the run exits non-zero.  (For file-system values in which
special nodes carry a special kind; `Node.special .dir 0` is not a thing.) -/

/-- special nodes carry a kind that is not the kind of a regular file, a directory or a symbolic link -/
def SpecialKindsOk (r : Node) : Prop :=
  ∀ q k d, r.getAt q = some (.special k d) → k ≠ .file ∧ k ≠ .dir ∧ k ≠ .symlink

theorem copyable_specialKindsOk : ∀ (d : Nat) (n : Node), n.Copyable d → SpecialKindsOk n := by
  have key : ∀ (q : List Name) (d : Nat) (n : Node) (k : FileKind) (dv : Nat), n.Copyable d →
      n.getAt q = some (.special k dv) → k = .socket ∨ k = .chr ∨ k = .fifo := by
    intro q
    induction q with
    | nil =>
      intro d n k dv hc h
      simp only [getAt_nil, Option.some.injEq] at h
      subst h
      simpa [Node.Copyable] using hc
    | cons a r ih =>
      intro d n k dv hc h
      obtain ⟨es0, c0, he0, hg0, hc0⟩ := Node.getAt_cons_some h
      subst he0
      obtain ⟨d', _, _, hch0⟩ := copyable_dir hc
      exact ih d' c0 k dv (hch0 _ (entGet_mem hg0)) hc0
  intro d n hc q k dv hq
  rcases key q d n k dv hc hq with h | h | h <;> subst h <;> simp

/-- By induction on the fuel, following the cases of `derefS`: `lstat` fails, `stat` fails (a dangling link), an
unsupported special kind, and a link back to a directory being walked each make the walker emit the failure marker
itself; a directory one of whose entries has no tree passes the marker up from that entry (induction hypothesis). -/
theorem walk_fails_of_no_tree (fs : Fs) (c : Cfg) (hd : c.dereference = true)
    (hroot : fs.root.isLink = false) (hsk : SpecialKindsOk fs.root) (sn0 tn0 : List Name)
    (hn : c.noClobber = false ∨ ∀ rel, fs.lexists (relJoin (plainPath tn0) rel) = false) :
    ∀ (fuel : Nat) (rel : List Name) (anc : List (List Name)),
      derefS fs fuel (sn0 ++ rel) anc = none →
      Op.fail ∈ walkEntry fs c none (plainPath sn0) (plainPath tn0) fuel rel anc := by
  intro fuel
  induction fuel with
  | zero => intro rel anc _; simp [walkEntry]
  | succ f ih =>
    intro rel anc h
    have hn' : c.noClobber = false ∨ fs.lexists (relJoin (plainPath tn0) rel) = false := hn.imp id (fun h => h rel)
    cases hl : fs.lstat (plainPath (sn0 ++ rel)) with
    | none =>
      rw [← relJoin_plain] at hl
      rw [walkEntry_lstat_none fs c none _ _ _ _ _ hl]
      exact List.mem_singleton.2 rfl
    | some pr =>
      obtain ⟨lcp, lnode⟩ := pr
      cases hs : fs.stat (plainPath (sn0 ++ rel)) with
      | none =>
        cases hk : lnode.isLink with
        | false =>
          rw [stat_of_lstat_nonlink fs _ lcp lnode hl hk] at hs
          cases hs
        | true =>
          cases lnode <;> simp [Node.isLink] at hk
          rw [← relJoin_plain] at hl hs
          rw [walkEntry_deref_dangling fs c none hd _ _ _ _ _ lcp _ hl hs]
          exact List.mem_singleton.2 rfl
      | some pr2 =>
        obtain ⟨cp, node⟩ := pr2
        obtain ⟨hnl, hg, _, hcan, hl2, _⟩ := stat_canon fs hroot (plainPath _) rfl cp node hs
        have hsa := seenAs_of fs _ lcp cp lnode node hl hs
        cases node with
        | file k =>
          rw [derefS] at h
          simp only [hl, hs] at h
          cases h
        | link t => cases hnl
        | special k d =>
          rw [derefS] at h
          simp only [hl, hs] at h
          cases hk : okSpecial k with
          | true => simp [hk] at h
          | false =>
            obtain ⟨k1, k2, k3⟩ := hsk cp k d hg
            rw [← relJoin_plain] at hl hs hcan
            rw [walkEntry_deref_leaf fs c none hd _ _ _ hn' (Bool.and_false _) _ _ lcp cp lnode _ _ hsa rfl hl hs hcan
              hl2]
            -- of the kinds a special node can carry, the unsupported ones are left: they give the failure marker
            cases k with
            | blk => exact List.mem_singleton.2 rfl
            | other => exact List.mem_singleton.2 rfl
            | file => exact absurd rfl k1
            | dir => exact absurd rfl k2
            | symlink => exact absurd rfl k3
            | socket => cases hk
            | chr => cases hk
            | fifo => cases hk
        | dir es =>
          cases hloop : (lnode.isLink && anc.contains cp) with
          | true =>
            simp only [Bool.and_eq_true] at hloop
            obtain ⟨h1, h2⟩ := hloop
            cases lnode <;> simp [Node.isLink] at h1
            rw [← relJoin_plain] at hl hs hcan
            rw [walkEntry_deref_loop fs c none hd _ _ _ hn' (Bool.and_false _) _ _ lcp cp _ es _ hl hs hcan hl2 h2]
            exact List.mem_singleton.2 rfl
          | false =>
            rw [derefS_dir hl hs hloop] at h
            cases hcol : collect (fun m => (derefS fs f (sn0 ++ rel ++ [m]) (cp :: anc)).map fun x => (m, x))
                (es.map (·.1)) with
            | some ss => rw [hcol] at h; exact absurd h (by simp)
            | none =>
              obtain ⟨m, hm, hfm⟩ := collect_none hcol
              have hdm : derefS fs f (sn0 ++ (rel ++ [m])) (cp :: anc) = none := by
                rw [← List.append_assoc]
                exact Option.map_eq_none_iff.1 hfm
              have := ih (rel ++ [m]) (cp :: anc) hdm
              rw [← relJoin_plain] at hl hs hcan
              rw [walkEntry_deref_dir fs c none hd _ _ _ hn' (Bool.and_false _) _ _ lcp cp lnode es _ hsa hl hs hcan hl2
                hloop]
              exact List.mem_cons_of_mem _ (List.mem_flatMap.2 ⟨m, hm, this⟩)

/-- … so the run exits non-zero -/
theorem run_fails_of_no_tree (fs : Fs) (c : Cfg) (hd : c.dereference = true)
    (hroot : fs.root.isLink = false) (hsk : SpecialKindsOk fs.root) (sn tn : List Name)
    (hn : c.noClobber = false ∨ ∀ rel, fs.lexists (relJoin (plainPath tn) rel) = false) (fuel : Nat)
    (h : derefS fs fuel sn [] = none) :
    (execOps fs c (walkEntry fs c none (plainPath sn) (plainPath tn) fuel [] [])).exit = .err := by
  have hf := walk_fails_of_no_tree fs c hd hroot hsk sn tn hn fuel [] [] (by rw [List.append_nil]; exact h)
  cases he : (execOps fs c (walkEntry fs c none (plainPath sn) (plainPath tn) fuel [] [])).exit with
  | err => rfl
  | ok => exact absurd rfl (execOps_ok_no_fail c _ fs he _ hf)

/-! ## Non-vacuity: a concrete instance

`/S` = { file `a`; `l` → `a`; `m` → `/O/f` (absolute, outside the source); `d` → `../O` (a directory outside the
source, itself holding a link `g/u` → `../../S/a` back into the source); `c` → `./l` (a chain of two links) },
`/O` = { file `f`; directory `g` = { file `h`; `u` } }, and an empty directory `/T`.  Source `/S`, target `/T/S`. -/
namespace DerefExample

def nS : Name := [83]
def nO : Name := [79]
def nT : Name := [84]

def srcN : Node := .dir [
  ([97], .file 1),
  ([108], .link ⟨false, [.name [97]], false⟩),
  ([109], .link ⟨true, [.name nO, .name [102]], false⟩),
  ([100], .link ⟨false, [.parent, .name nO], false⟩),
  ([99], .link ⟨false, [.cur, .name [108]], false⟩)]

def exRoot : Node := .dir [
  (nS, srcN),
  (nO, .dir [([102], .file 2),
             ([103], .dir [([104], .file 3),
                           ([117], .link ⟨false, [.parent, .parent, .name nS, .name [97]], false⟩)])]),
  (nT, .dir [])]

def exFs : Fs := ⟨exRoot, []⟩
def exCfg : Cfg := { dereference := true }

/-- the tree seen through the links, with the canonical path of every node -/
def exS : SNode := .dir [nS] [
  ([97], .file [nS, [97]] 1),
  ([108], .file [nS, [97]] 1),
  ([109], .file [nO, [102]] 2),
  ([100], .dir [nO] [([102], .file [nO, [102]] 2),
                     ([103], .dir [nO, [103]] [([104], .file [nO, [103], [104]] 3),
                                               ([117], .file [nS, [97]] 1)])]),
  ([99], .file [nS, [97]] 1)]

/-- what arrives at the destination: no link left, every link replaced by a copy of what it leads to -/
def exDest : Node := .dir [
  ([97], .file 1), ([108], .file 1), ([109], .file 2),
  ([100], .dir [([102], .file 2), ([103], .dir [([104], .file 3), ([117], .file 1)])]),
  ([99], .file 1)]

theorem exS_computed : derefS exFs 4 [nS] [] = some exS := by rfl

theorem exS_erase : exS.erase = exDest := by rfl

theorem exFs_wf : FsEq exFs exFs := by
  have h : exRoot.Copyable 4 := by
    simp [exRoot, srcN, Node.Copyable, Node.Copyable.CopyableL, nS, nO, nT]
  exact ⟨rfl, copyable_WF 4 _ h, copyable_WF 4 _ h, SameObs.refl _⟩

theorem ex_target_plain : PlainTarget exFs (plainPath [nT, nS]) := by
  refine ⟨rfl, rfl, (plainPath_namesOnly _).2.2, ?_⟩
  rw [plainPath_names]
  intro p hp tg hg
  have hT : exFs.root.getAt [nT] = some (.dir []) := by rfl
  rcases List.prefix_concat_iff.1 (show p <+: [nT] ++ [nS] from hp) with h | h
  · rw [h] at hg
    have : exFs.root.getAt ([nT] ++ [nS]) = none := by rfl
    rw [this] at hg
    cases hg
  · exact noLinkUpto_of_getAt hT rfl p h tg hg

/-- the general theorem applied to the instance: the run succeeds, `/T/S` receives `exDest`, which is the source
node with every link replaced by what it leads to, and holds no symbolic link -/
theorem example_run :
    ∃ fs', execOps exFs exCfg (walkEntry exFs exCfg none (plainPath [nS]) (plainPath [nT, nS]) 4 [] []) = ⟨.ok, fs'⟩ ∧
      Derefs exFs [nS] srcN exDest ∧
      FsEq fs' { exFs with root := exFs.root.setAt [nT, nS] exDest } ∧
      ∀ q x, fs'.root.getAt ([nT, nS] ++ q) = some x → x.isLink = false := by
  have h := mirror_fresh_deref_replaced (src := plainPath [nS]) (tb := plainPath [nT, nS]) (s := exS) (fuel := 3)
    ⟨exFs_wf, plainPath_namesOnly _, by rw [plainPath_names]; exact exS_computed, ex_target_plain, by rw [plainPath_names]; simp,
      by rw [plainPath_names]; exact ⟨[], by rfl⟩, by rw [plainPath_names]; decide⟩
    exCfg rfl rfl [nS] srcN (by rfl) (by rw [plainPath_names]; rfl)
  obtain ⟨fs', m, h1, h2, h3, h4⟩ := h
  have hm : m = exDest := by
    have hd : Derefs exFs [nS] srcN exS.erase :=
      derefS_derefs exFs rfl 4 [nS] [] exS [nS] srcN exS_computed (by rfl)
    rw [← exS_erase]
    exact (Derefs.unique exFs_wf.2.1 h2 _ (by rfl) hd)
  subst hm
  rw [plainPath_names] at h3 h4
  exact ⟨fs', h1, h2, h3, h4⟩

/-- a link that leads back to a directory being listed: there is no tree, and the run fails -/
def loopRoot : Node := .dir [
  (nS, .dir [([97], .file 1), ([108], .link ⟨false, [.parent, .name nS], false⟩)]),
  (nT, .dir [])]

theorem loop_has_no_tree : derefS ⟨loopRoot, []⟩ 6 [nS] [] = none := by rfl

theorem loop_run_fails :
    (execOps ⟨loopRoot, []⟩ exCfg
      (walkEntry ⟨loopRoot, []⟩ exCfg none (plainPath [nS]) (plainPath [nT, nS]) 6 [] [])).exit = .err :=
  run_fails_of_no_tree ⟨loopRoot, []⟩ exCfg rfl rfl
    (copyable_specialKindsOk 3 _ (by
      simp [loopRoot, Node.Copyable, Node.Copyable.CopyableL, nS, nT]))
    [nS] [nT, nS] (.inl rfl) 6 loop_has_no_tree

end DerefExample

end Xcp
