import XcpProofs.Prune
/-! # Lemmas for the tree-level `--dereference` theorem

The *sourced tree* `SNode` (the tree the dereferencing walk sees, every node carrying the canonical path it is read
from: `stat` of an absolute path yields a canonical, link-free path whose `lstat` is the node itself, `stat_canon`),
`derefS` (its computation from `lstat`/`stat` of the spelled paths), the operation list `opsOfS`, and one-step
unfoldings of `walkEntry` with `dereference = true`. -/
namespace Xcp


/-- The tree a dereferencing walk sees: regular files, special files and directories only, every node with the
canonical (link-free) path of the object it stands for — for an entry that is not a symbolic link its own place,
for a symbolic link the place its chain of links ends at. -/
inductive SNode
  | file (src : List Name) (content : Nat)
  | special (src : List Name) (kind : FileKind) (rdev : Nat)
  | dir (src : List Name) (entries : List (Name × SNode))
deriving Repr

mutual
/-- forget where the nodes come from: the tree that is to appear at the destination -/
def SNode.erase : SNode → Node
  | .file _ k => .file k
  | .special _ k d => .special k d
  | .dir _ es => .dir (eraseL es)
def eraseL : List (Name × SNode) → List (Name × Node)
  | [] => []
  | (m, ch) :: r => (m, ch.erase) :: eraseL r
end

mutual
/-- the non-directory nodes with the canonical paths they are read from -/
def SNode.leaves : SNode → List (List Name × Node)
  | .file cp k => [(cp, .file k)]
  | .special cp k d => [(cp, .special k d)]
  | .dir _ es => leavesL es
def leavesL : List (Name × SNode) → List (List Name × Node)
  | [] => []
  | (_, ch) :: r => ch.leaves ++ leavesL r
end

mutual
/-- the canonical paths of the directories the walk lists -/
def SNode.dirs : SNode → List (List Name)
  | .file _ _ => []
  | .special _ _ _ => []
  | .dir cp es => cp :: dirsL es
def dirsL : List (Name × SNode) → List (List Name)
  | [] => []
  | (_, ch) :: r => ch.dirs ++ dirsL r
end

mutual
/-- the operations for a sourced tree to be placed at the plain target path `tn`: as `opsOf` of the erased tree,
the copy and special operations reading from the canonical paths -/
def opsOfS : SNode → List Name → List Op
  | .file cp _, tn => [.copy (plainPath cp) (plainPath tn)]
  | .special cp _ _, tn => [.special (plainPath cp) (plainPath tn)]
  | .dir _ es, tn => .mkdir (plainPath tn) :: opsOfSL es tn
def opsOfSL : List (Name × SNode) → List Name → List Op
  | [], _ => []
  | (m, ch) :: r, tn => opsOfS ch (tn ++ [m]) ++ opsOfSL r tn
end

theorem eraseL_eq_map : ∀ (es : List (Name × SNode)), eraseL es = es.map fun e => (e.1, e.2.erase)
  | [] => rfl
  | (m, ch) :: r => by rw [eraseL, eraseL_eq_map r]; rfl

theorem leavesL_eq_flatMap : ∀ (es : List (Name × SNode)), leavesL es = es.flatMap fun e => e.2.leaves
  | [] => rfl
  | (m, ch) :: r => by rw [leavesL, leavesL_eq_flatMap r]; rfl

theorem dirsL_eq_flatMap : ∀ (es : List (Name × SNode)), dirsL es = es.flatMap fun e => e.2.dirs
  | [] => rfl
  | (m, ch) :: r => by rw [dirsL, dirsL_eq_flatMap r]; rfl

theorem opsOfSL_eq_flatMap : ∀ (es : List (Name × SNode)) (tn : List Name),
    opsOfSL es tn = es.flatMap fun e => opsOfS e.2 (tn ++ [e.1])
  | [], _ => rfl
  | (m, ch) :: r, tn => by rw [opsOfSL, opsOfSL_eq_flatMap r tn]; rfl

theorem eraseL_names (es : List (Name × SNode)) : (eraseL es).map (·.1) = es.map (·.1) := by
  rw [eraseL_eq_map, List.map_map]
  rfl

theorem eraseL_mem (es : List (Name × SNode)) (m : Name) (ch : SNode) (h : (m, ch) ∈ es) :
    (m, ch.erase) ∈ eraseL es := by
  rw [eraseL_eq_map]
  exact List.mem_map.2 ⟨(m, ch), h, rfl⟩

theorem mem_eraseL (es : List (Name × SNode)) (e : Name × Node) (h : e ∈ eraseL es) :
    ∃ ch, (e.1, ch) ∈ es ∧ e.2 = ch.erase := by
  rw [eraseL_eq_map] at h
  obtain ⟨a, ha, rfl⟩ := List.mem_map.1 h
  exact ⟨a.2, ha, rfl⟩

theorem leavesL_mem (es : List (Name × SNode)) (m : Name) (ch : SNode) (h : (m, ch) ∈ es) :
    ∀ l ∈ ch.leaves, l ∈ leavesL es := by
  intro l hl
  rw [leavesL_eq_flatMap]
  exact List.mem_flatMap.2 ⟨(m, ch), h, hl⟩

theorem dirsL_mem : ∀ (es : List (Name × SNode)) (m : Name) (ch : SNode), (m, ch) ∈ es →
    ∀ l ∈ ch.dirs, l ∈ dirsL es := by
  intro es m ch h l hl
  rw [dirsL_eq_flatMap]
  exact List.mem_flatMap.2 ⟨(m, ch), h, hl⟩

theorem erase_getAt_not_link : ∀ (q : List Name) (s : SNode) (x : Node), s.erase.getAt q = some x →
    x.isLink = false := by
  intro q
  induction q with
  | nil =>
    intro s x h
    simp only [getAt_nil, Option.some.injEq] at h
    subst h
    cases s <;> simp [SNode.erase, Node.isLink]
  | cons m r ih =>
    intro s x h
    obtain ⟨es, c, he, hg, hc⟩ := Node.getAt_cons_some h
    cases s with
    | file _ _ => simp [SNode.erase] at he
    | special _ _ _ => simp [SNode.erase] at he
    | dir cp ss =>
      simp only [SNode.erase, Node.dir.injEq] at he
      subst he
      obtain ⟨ch, _, h2⟩ := mem_eraseL ss (m, c) (entGet_mem hg)
      simp only at h2
      subst h2
      exact ih ch x hc

/-- all results, or nothing: `List.mapM` into `Option`, as a plain recursion on the list, so that `derefS`, which is
defined with it, unfolds by cases on the two results and evaluates by `rfl` on an instance -/
def collect {α β : Type} (f : α → Option β) : List α → Option (List β)
  | [] => some []
  | a :: r =>
    match f a, collect f r with
    | some b, some bs => some (b :: bs)
    | _, _ => none

theorem collect_cons_some {α β : Type} {f : α → Option β} {a : α} {r : List α} {l : List β}
    (h : collect f (a :: r) = some l) : ∃ b bs, f a = some b ∧ collect f r = some bs ∧ l = b :: bs := by
  simp only [collect] at h
  split at h
  · rename_i b bs h1 h2
    injection h with h
    exact ⟨b, bs, h1, h2, h.symm⟩
  · cases h

theorem collect_none {α β : Type} {f : α → Option β} : ∀ {l : List α}, collect f l = none → ∃ a ∈ l, f a = none
  | [], h => by simp [collect] at h
  | a :: r, h => by
    cases hfa : f a with
    | none => exact ⟨a, List.mem_cons_self, hfa⟩
    | some b =>
      cases hr : collect f r with
      | none =>
        obtain ⟨x, hx, hfx⟩ := collect_none hr
        exact ⟨x, List.mem_cons_of_mem _ hx, hfx⟩
      | some bs => simp [collect, hfa, hr] at h

/-- the kinds of special file xcp re-creates with `mknod` (the disjunction in `Node.Copyable`, as the test `derefS`
makes; `okSpecial_iff`) -/
def okSpecial (k : FileKind) : Bool :=
  match k with
  | .socket => true | .chr => true | .fifo => true | _ => false

theorem okSpecial_iff (k : FileKind) : okSpecial k = true ↔ (k = .socket ∨ k = .chr ∨ k = .fifo) := by
  cases k <;> simp [okSpecial]

/-- The tree seen from the absolute path spelled by the names `path` when every symbolic link is followed
(what `stat` reports there, and recursively at `path/m` for every entry `m` of a directory), with the canonical
path of every node.  `none`: the path does not resolve (missing, a dangling link, a chain of links that exhausts
the resolution fuel), something below it does not, a node is of a kind xcp does not copy (block device, unknown),
a symbolic link leads to a directory that is being listed already (`anc`: walkdir's loop check, only made for
links), or the tree is deeper than the fuel. -/
def derefS (fs : Fs) : (fuel : Nat) → (path : List Name) → (anc : List (List Name)) → Option SNode
  | 0, _, _ => none
  | f+1, path, anc =>
    match fs.lstat (plainPath path), fs.stat (plainPath path) with
    | some (_, lnode), some (cp, node) =>
      (match node with
      | .file k => some (.file cp k)
      | .special k d => if okSpecial k then some (.special cp k d) else none
      | .link _ => none
      | .dir es =>
        if lnode.isLink && anc.contains cp then none
        else (collect (fun m => (derefS fs f (path ++ [m]) (cp :: anc)).map fun x => (m, x)) (es.map (·.1))).map
          (SNode.dir cp))
    | _, _ => none

theorem derefS_children (fs : Fs) (f : Nat) (path : List Name) (anc : List (List Name)) :
    ∀ (names : List Name) (ss : List (Name × SNode)),
      collect (fun m => (derefS fs f (path ++ [m]) anc).map fun x => (m, x)) names = some ss →
      ss.map (·.1) = names ∧ ∀ e ∈ ss, derefS fs f (path ++ [e.1]) anc = some e.2 := by
  intro names
  induction names with
  | nil =>
    intro ss h
    simp only [collect, Option.some.injEq] at h
    subst h
    exact ⟨rfl, fun e he => by cases he⟩
  | cons a r ih =>
    intro ss h
    obtain ⟨b, bs, h1, h2, h3⟩ := collect_cons_some h
    subst h3
    obtain ⟨i1, i2⟩ := ih bs h2
    cases hd : derefS fs f (path ++ [a]) anc with
    | none => simp [hd] at h1
    | some x =>
      simp only [hd, Option.map_some, Option.some.injEq] at h1
      subst h1
      refine ⟨by simp [i1], ?_⟩
      intro e he
      cases he with
      | head => exact hd
      | tail _ he' => exact i2 e he'

theorem derefS_succ_some {fs : Fs} {f : Nat} {path : List Name} {anc : List (List Name)} {s : SNode}
    (h : derefS fs (f + 1) path anc = some s) :
    ∃ lcp lnode cp node, fs.lstat (plainPath path) = some (lcp, lnode) ∧
      fs.stat (plainPath path) = some (cp, node) ∧
      ((∃ k, node = .file k ∧ s = .file cp k) ∨
       (∃ k d, node = .special k d ∧ okSpecial k = true ∧ s = .special cp k d) ∨
       (∃ es ss, node = .dir es ∧ (lnode.isLink && anc.contains cp) = false ∧
          collect (fun m => (derefS fs f (path ++ [m]) (cp :: anc)).map fun x => (m, x)) (es.map (·.1)) = some ss ∧
          s = .dir cp ss)) := by
  rw [derefS] at h
  cases hl : fs.lstat (plainPath path) with
  | none => rw [hl] at h; cases h
  | some pl =>
    obtain ⟨lcp, lnode⟩ := pl
    cases hs : fs.stat (plainPath path) with
    | none => rw [hl, hs] at h; cases h
    | some ps =>
      obtain ⟨cp, node⟩ := ps
      rw [hl, hs] at h
      refine ⟨lcp, lnode, cp, node, rfl, rfl, ?_⟩
      cases node with
      | file k => exact .inl ⟨k, rfl, (Option.some.inj h).symm⟩
      | link t => cases h
      | special k d =>
        cases hk : okSpecial k with
        | false => simp only [hk, Bool.false_eq_true, if_false] at h; cases h
        | true =>
          simp only [hk, if_true] at h
          exact .inr (.inl ⟨k, d, rfl, hk, (Option.some.inj h).symm⟩)
      | dir es =>
        cases hc : (lnode.isLink && anc.contains cp) with
        | true => simp only [hc, if_true] at h; cases h
        | false =>
          simp only [hc, Bool.false_eq_true, if_false] at h
          cases hcol : collect (fun m => (derefS fs f (path ++ [m]) (cp :: anc)).map fun x => (m, x)) (es.map (·.1)) with
          | none => rw [hcol] at h; cases h
          | some ss =>
            rw [hcol] at h
            exact .inr (.inr ⟨es, ss, rfl, rfl, hcol, (Option.some.inj h).symm⟩)

theorem derefS_dir {fs : Fs} {f : Nat} {path : List Name} {anc : List (List Name)} {lcp cp : List Name}
    {lnode : Node} {es : Entries}
    (hl : fs.lstat (plainPath path) = some (lcp, lnode)) (hs : fs.stat (plainPath path) = some (cp, .dir es))
    (hloop : (lnode.isLink && anc.contains cp) = false) :
    derefS fs (f + 1) path anc =
      (collect (fun m => (derefS fs f (path ++ [m]) (cp :: anc)).map fun x => (m, x)) (es.map (·.1))).map
        (SNode.dir cp) := by
  rw [derefS]
  simp only [hl, hs, hloop, Bool.false_eq_true, if_false]

/-- what `lstat` saw is what `stat` saw, or a symbolic link -/
def SeenAs (lnode node : Node) : Prop := lnode = node ∨ ∃ t, lnode = .link t

theorem seenAs_of (fs : Fs) (ns lcp cp : List Name) (lnode node : Node)
    (hl : fs.lstat (plainPath ns) = some (lcp, lnode)) (hs : fs.stat (plainPath ns) = some (cp, node)) :
    SeenAs lnode node := by
  cases hk : lnode.isLink with
  | true =>
    cases lnode <;> simp [Node.isLink] at hk
    exact .inr ⟨_, rfl⟩
  | false =>
    have := stat_of_lstat_nonlink fs (plainPath ns) lcp lnode hl hk
    rw [hs] at this
    injection this with this
    injection this with _ h2
    exact .inl h2.symm

/-- one step of the walk with `--dereference`, for an entry that resolves, that the filter lets through and whose
canonical place `lstat` finds: its own operation, reading from the canonical place, then its children -/
theorem walkEntry_deref_step (fs : Fs) (c : Cfg) (gi : Ignore) (hd : c.dereference = true)
    (src tb : RPath) (rel : List Name) (hn : c.noClobber = false ∨ fs.lexists (relJoin tb rel) = false)
    (hgi : giDrops fs c gi (relJoin src rel) rel = false)
    (f : Nat) (anc : List (List Name)) (lcp cp : List Name) (lnode node : Node) (fromP : RPath)
    (hl : fs.lstat (relJoin src rel) = some (lcp, lnode))
    (hs : fs.stat (relJoin src rel) = some (cp, node))
    (hcan : fs.canonicalize (relJoin src rel) = .ok fromP)
    (hl2 : fs.lstat fromP = some (cp, node)) :
    walkEntry fs c gi src tb (f + 1) rel anc =
      walkBelow fs c gi src tb f rel anc lnode (hereOps node fromP (relJoin tb rel))
        (descendOf lnode cp (if lnode.isLink then some (cp, node) else none)) := by
  have hfo : followedOf fs c (relJoin src rel) rel.length lnode = if lnode.isLink then some (cp, node) else none := by
    rw [followedOf, hd, Bool.true_or, Bool.and_true, hs]
  have hdang : (lnode.isLink && true && (if lnode.isLink then some (cp, node) else none).isNone) = false := by
    cases lnode.isLink <;> simp
  rw [walkEntry_succ]
  simp only [hl, hfo, hdang, hd, hcan, hl2, hgi, noClobber_probe_off hn, Bool.false_eq_true, if_false, if_true]

/-- … a non-directory: its own operation only -/
theorem walkEntry_deref_leaf (fs : Fs) (c : Cfg) (gi : Ignore) (hd : c.dereference = true)
    (src tb : RPath) (rel : List Name) (hn : c.noClobber = false ∨ fs.lexists (relJoin tb rel) = false)
    (hgi : giDrops fs c gi (relJoin src rel) rel = false)
    (f : Nat) (anc : List (List Name)) (lcp cp : List Name) (lnode node : Node) (fromP : RPath)
    (hsa : SeenAs lnode node) (hnd : node.isDir = false)
    (hl : fs.lstat (relJoin src rel) = some (lcp, lnode))
    (hs : fs.stat (relJoin src rel) = some (cp, node))
    (hcan : fs.canonicalize (relJoin src rel) = .ok fromP)
    (hl2 : fs.lstat fromP = some (cp, node)) :
    walkEntry fs c gi src tb (f + 1) rel anc = hereOps node fromP (relJoin tb rel) := by
  rw [walkEntry_deref_step fs c gi hd src tb rel hn hgi f anc lcp cp lnode _ fromP hl hs hcan hl2]
  cases node with
  | dir es => cases hnd
  | file k => rcases hsa with hsa | ⟨t, hsa⟩ <;> subst hsa <;> rfl
  | special k d => rcases hsa with hsa | ⟨t, hsa⟩ <;> subst hsa <;> rfl
  | link u => rcases hsa with hsa | ⟨t, hsa⟩ <;> subst hsa <;> rfl

theorem walkEntry_deref_dir (fs : Fs) (c : Cfg) (gi : Ignore) (hd : c.dereference = true)
    (src tb : RPath) (rel : List Name) (hn : c.noClobber = false ∨ fs.lexists (relJoin tb rel) = false)
    (hgi : giDrops fs c gi (relJoin src rel) rel = false)
    (f : Nat) (anc : List (List Name)) (lcp cp : List Name)
    (lnode : Node) (es : Entries) (fromP : RPath) (hsa : SeenAs lnode (.dir es))
    (hl : fs.lstat (relJoin src rel) = some (lcp, lnode))
    (hs : fs.stat (relJoin src rel) = some (cp, .dir es))
    (hcan : fs.canonicalize (relJoin src rel) = .ok fromP)
    (hl2 : fs.lstat fromP = some (cp, .dir es))
    (hloop : (lnode.isLink && anc.contains cp) = false) :
    walkEntry fs c gi src tb (f + 1) rel anc =
      .mkdir (relJoin tb rel) ::
        (es.map (·.1)).flatMap fun n => walkEntry fs c gi src tb f (rel ++ [n]) (cp :: anc) := by
  rw [walkEntry_deref_step fs c gi hd src tb rel hn hgi f anc lcp cp lnode _ fromP hl hs hcan hl2]
  have hd' : descendOf lnode cp (if lnode.isLink then some (cp, .dir es) else none) = some cp := by
    rcases hsa with hsa | ⟨t, hsa⟩ <;> subst hsa <;> rfl
  have hloop' : (lnode.isLink && c.dereference && anc.contains cp) = false := by
    rw [hd, Bool.and_true]; exact hloop
  rw [hd']
  simp only [walkBelow, hloop', Bool.false_eq_true, if_false, (lstat_some hl2).2]
  rfl

theorem walkEntry_deref_loop (fs : Fs) (c : Cfg) (gi : Ignore) (hd : c.dereference = true)
    (src tb : RPath) (rel : List Name) (hn : c.noClobber = false ∨ fs.lexists (relJoin tb rel) = false)
    (hgi : giDrops fs c gi (relJoin src rel) rel = false)
    (f : Nat) (anc : List (List Name)) (lcp cp : List Name)
    (t : RPath) (es : Entries) (fromP : RPath)
    (hl : fs.lstat (relJoin src rel) = some (lcp, .link t))
    (hs : fs.stat (relJoin src rel) = some (cp, .dir es))
    (hcan : fs.canonicalize (relJoin src rel) = .ok fromP)
    (hl2 : fs.lstat fromP = some (cp, .dir es))
    (hloop : anc.contains cp = true) :
    walkEntry fs c gi src tb (f + 1) rel anc = [.fail] := by
  rw [walkEntry_deref_step fs c gi hd src tb rel hn hgi f anc lcp cp _ _ fromP hl hs hcan hl2]
  simp only [Node.isLink, if_true, descendOf, walkBelow, hd, Bool.and_self, hloop]

theorem walkEntry_deref_dangling (fs : Fs) (c : Cfg) (gi : Ignore) (hd : c.dereference = true)
    (src tb : RPath) (rel : List Name) (f : Nat) (anc : List (List Name)) (lcp : List Name) (t : RPath)
    (hl : fs.lstat (relJoin src rel) = some (lcp, .link t))
    (hs : fs.stat (relJoin src rel) = none) :
    walkEntry fs c gi src tb (f + 1) rel anc = [.fail] := by
  rw [walkEntry_succ]
  simp only [hl, followedOf, Node.isLink, hd, Bool.true_or, Bool.and_self, if_true, hs, Option.isNone_none]

theorem walkEntry_lstat_none (fs : Fs) (c : Cfg) (gi : Ignore)
    (src tb : RPath) (rel : List Name) (f : Nat) (anc : List (List Name))
    (hl : fs.lstat (relJoin src rel) = none) :
    walkEntry fs c gi src tb (f + 1) rel anc = [.fail] := by
  rw [walkEntry_succ, hl]

/-- every leaf of `s` is found in the tree `r` at the canonical path it names -/
def SrcIn (r : Node) (s : SNode) : Prop :=
  ∀ l ∈ s.leaves, r.getAt l.1 = some l.2 ∧ l.2.isDir = false ∧ l.1.length ≤ 256

theorem src_unrel {r : Node} {cp par : List Name} {nm : Name} {x : Node} {pes : Entries}
    (hx : r.getAt cp = some x) (hxd : x.isDir = false)
    (hp : r.getAt par = some (.dir pes)) (hn : r.getAt (par ++ [nm]) = none) :
    L0.Unrel (par ++ [nm]) cp := by
  constructor
  · rintro ⟨s, hs⟩
    rw [← hs, getAt_append_none _ _ _ hn] at hx
    cases hx
  · intro h
    rcases List.prefix_concat_iff.1 h with h | h
    · rw [h, hn] at hx
      cases hx
    · obtain ⟨s, hs⟩ := h
      rw [← hs, Node.getAt_append, hx] at hp
      cases s with
      | nil =>
        simp only [Option.bind_some, getAt_nil, Option.some.injEq] at hp
        subst hp
        cases hxd
      | cons a s' =>
        simp only [Option.bind_some] at hp
        rw [getAt_nondir _ _ _ hxd] at hp
        cases hp

theorem copyableL_eraseL {ss : List (Name × SNode)} {d : Nat} (h : ∀ e ∈ ss, e.2.erase.Copyable d) :
    Node.Copyable.CopyableL (eraseL ss) d := by
  apply copyableL_of_mem
  intro e he
  obtain ⟨ch, h1, h2⟩ := mem_eraseL ss e he
  rw [h2]
  exact h _ h1

/-- a computed sourced tree is copyable within the fuel (supported kinds, no name twice, depth), and its leaves
are where it says, at most 256 names deep -/
theorem derefS_good (fs : Fs) (hroot : fs.root.isLink = false) (hwf : fs.root.WF) :
    ∀ (fuel : Nat) (path : List Name) (anc : List (List Name)) (s : SNode),
      derefS fs fuel path anc = some s → s.erase.Copyable fuel ∧ SrcIn fs.root s := by
  intro fuel
  induction fuel with
  | zero => intro path anc s h; simp [derefS] at h
  | succ f ih =>
    intro path anc s h
    obtain ⟨lcp, lnode, cp, node, _, hs, hcase⟩ := derefS_succ_some h
    obtain ⟨_, hg, hb, _, _, _⟩ := stat_canon fs hroot (plainPath path) rfl cp node hs
    rcases hcase with ⟨k, hnode, hs'⟩ | ⟨k, d, hnode, hk, hs'⟩ | ⟨es, ss, hnode, _, hcol, hs'⟩
    · subst hnode; subst hs'
      refine ⟨by simp [SNode.erase, Node.Copyable], ?_⟩
      intro l hl
      simp only [SNode.leaves, List.mem_singleton] at hl
      subst hl
      exact ⟨hg, rfl, by simpa [Node.isDir] using hb⟩
    · subst hnode; subst hs'
      refine ⟨by simpa [SNode.erase, Node.Copyable] using (okSpecial_iff k).1 hk, ?_⟩
      intro l hl
      simp only [SNode.leaves, List.mem_singleton] at hl
      subst hl
      exact ⟨hg, rfl, by simpa [Node.isDir] using hb⟩
    · subst hnode; subst hs'
      obtain ⟨hnames, hch⟩ := derefS_children fs f path (cp :: anc) _ ss hcol
      constructor
      · simp only [SNode.erase, Node.Copyable]
        refine ⟨?_, copyableL_eraseL (fun e he => (ih _ _ _ (hch e he)).1)⟩
        rw [eraseL_names, hnames]
        exact hwf cp es hg
      · intro l hl
        simp only [SNode.leaves, leavesL_eq_flatMap, List.mem_flatMap] at hl
        obtain ⟨e, he, hle⟩ := hl
        exact (ih _ _ _ (hch e he)).2 l hle

end Xcp
