import XcpProofs.OverlayConc
/-! # Non-vacuity of the mirror theorems

A concrete instance satisfying every hypothesis of `mirror_fresh` / `overlay_concurrent_ok` at once: the root
holds `S` = { file `a`, link `l` → "a", directory `sub` = { file `b`, fifo `p` } } and an empty directory `D`; the
source is `/S`, the target base `/D/S`. -/
namespace Xcp.MirrorExample

open Xcp L0

def nS : Name := [83]
def nD : Name := [68]
def na : Name := [97]
def nl : Name := [108]
def nsub : Name := [115, 117, 98]
def nb : Name := [98]
def np : Name := [112]

def subN : Node := .dir [(nb, .file 2), (np, .special .fifo 0)]
def SN : Node := .dir [(na, .file 1), (nl, .link ⟨false, [.name na], false⟩), (nsub, subN)]
def rootN : Node := .dir [(nS, SN), (nD, .dir [])]
def fs0 : Fs := ⟨rootN, []⟩
def c0 : Cfg := {}
def src0 : RPath := plainPath [nS]
def tb0 : RPath := plainPath [nD, nS]

theorem fs0_wf : FsEq fs0 fs0 := by
  have h : rootN.Copyable 3 := by
    simp [rootN, SN, subN, Node.Copyable, Node.Copyable.CopyableL, nS, nD, na, nl, nsub, nb, np]
  exact ⟨rfl, copyable_WF 3 _ h, copyable_WF 3 _ h, SameObs.refl _⟩

theorem getS : fs0.root.getAt [nS] = some SN := by
  simp [fs0, rootN, Node.getAt, entGet]

theorem getD : fs0.root.getAt [nD] = some (.dir []) := by
  simp [fs0, rootN, Node.getAt, entGet, nS, nD]

theorem getDS : fs0.root.getAt [nD, nS] = none := by
  simp [fs0, rootN, Node.getAt, entGet, nS, nD]

theorem src0_names : src0.names = [nS] := plainPath_names _
theorem tb0_names : tb0.names = [nD, nS] := plainPath_names _

theorem src0_plain : PlainTarget fs0 src0 := by
  refine ⟨rfl, rfl, (plainPath_namesOnly _).2.2, ?_⟩
  rw [src0_names]
  exact noLinkUpto_of_getAt getS rfl

theorem tb0_plain : PlainTarget fs0 tb0 := by
  refine ⟨rfl, rfl, (plainPath_namesOnly _).2.2, ?_⟩
  rw [tb0_names]
  intro p hp tg hg
  rcases List.prefix_concat_iff.1 (show p <+: [nD] ++ [nS] from hp) with h | h
  · rw [h] at hg
    have := getDS
    simp only [List.cons_append, List.nil_append] at hg
    rw [this] at hg
    cases hg
  · exact noLinkUpto_of_getAt getD rfl p h tg hg

theorem SN_copyable : SN.Copyable 2 := by
  simp [SN, subN, Node.Copyable, Node.Copyable.CopyableL, na, nl, nsub, nb, np]

theorem run_facts (ls : List Label) (s : St) (hrun : run c0 (init fs0 (freshOps fs0 c0 src0 tb0 2)) ls = some s) :
    s.failed = false ∧ (final s = true → FsEq s.fs { fs0 with root := fs0.root.setAt tb0.names SN }) := by
  have habs : fs0.root.getAt tb0.names = none := by rw [tb0_names]; exact getDS
  rw [freshOps, walkEntry_none] at hrun
  have h := overlay_concurrent_ok (srcNode := SN) ⟨fs0_wf, src0_plain, by rw [src0_names]; exact getS, SN_copyable,
    tb0_plain, by rw [tb0_names]; simp, by rw [tb0_names]; exact ⟨[], getD⟩,
    ⟨by rw [src0_names, tb0_names]; decide, by rw [src0_names, tb0_names]; decide⟩,
    by rw [src0_names, tb0_names]; decide⟩ c0 rfl (.inl rfl) []
    (by rw [habs]; exact compatible_none _) ls s hrun
  rw [habs, overlay_none, prune_nil] at h
  exact h

example (ls : List Label) (s : St) (hrun : run c0 (init fs0 (freshOps fs0 c0 src0 tb0 2)) ls = some s)
    (hfin : final s = true) (hok : s.failed = false) :
    FsEq s.fs { fs0 with root := fs0.root.setAt tb0.names SN } := by
  have _ := hok
  exact (run_facts ls s hrun).2 hfin

example (ls : List Label) (s : St) (hrun : run c0 (init fs0 (freshOps fs0 c0 src0 tb0 2)) ls = some s) :
    s.failed = false :=
  (run_facts ls s hrun).1

def ls0 : List Label := [.walk, .walk, .walk, .exec 1, .walk, .walk, .walk, .exec 2, .exec 0, .exec 0]

/-- the hypotheses about runs are satisfiable too: this interleaving is a complete, failure-free run (so the
conclusion of `overlay_concurrent_ok` holds of its final state) -/
theorem complete_run_exists : ∃ s, run c0 (init fs0 (freshOps fs0 c0 src0 tb0 2)) ls0 = some s ∧ final s = true ∧
    s.failed = false ∧ FsEq s.fs { fs0 with root := fs0.root.setAt tb0.names SN } := by
  have h : (run c0 (init fs0 (freshOps fs0 c0 src0 tb0 2)) ls0).map final = some true := by decide
  cases hr : run c0 (init fs0 (freshOps fs0 c0 src0 tb0 2)) ls0 with
  | none => rw [hr] at h; cases h
  | some s =>
    rw [hr] at h
    have hfin : final s = true := by simpa using h
    exact ⟨s, rfl, hfin, (run_facts ls0 s hr).1, (run_facts ls0 s hr).2 hfin⟩

end Xcp.MirrorExample
