import XcpProofs.Loops
import XcpProofs.Extents
import XcpProofs.Compose
/-! Sparse copies: `copy_sparse` writes exactly the segments of the SEEK_DATA/SEEK_HOLE search, hence the
whole source; parblock's blocks lie inside the merged extents. -/
namespace Xcp

theorem copySparse_at_end (k : Kern) (s : SeekOracle) (b len fuel a pos : Nat) (h : len ≤ pos) :
    copySparse k s b len fuel a pos = ⟨[], .ok len, a⟩ := by
  cases fuel <;> rw [copySparse, if_neg (Nat.not_lt.mpr h)]

theorem segmentsOf_at_end (s : SeekOracle) (len g pos : Nat) (h : len ≤ pos) : segmentsOf s len g pos = [] := by
  cases g with
  | zero => rfl
  | succ g => rw [segmentsOf, if_neg (Nat.not_lt.mpr h)]

/-- `copy_sparse` and the segment search walk the same positions: from `pos` on, the bytes moved are exactly
those of the segments the search reports from `pos` on (any fuel `g` of the search that suffices for the
rest of the file) -/
theorem copySparse_covered (k : Kern) (s : SeekOracle) (src : Bytes) (hs : KernSafe k src.length)
    (hl : SeekLegal s src) (b : Nat) :
    ∀ (fuel a pos n g : Nat), src.length < pos + g →
      (copySparse k s b src.length fuel a pos).stop = .ok n →
      ∀ i, covered (jobsOf (copySparse k s b src.length fuel a pos).evs) i ↔
        ∃ seg ∈ segmentsOf s src.length g pos, seg.1 ≤ i ∧ i < seg.2 := by
  have at_end : ∀ fuel a pos g, src.length ≤ pos →
      ∀ i, covered (jobsOf (copySparse k s b src.length fuel a pos).evs) i ↔
        ∃ seg ∈ segmentsOf s src.length g pos, seg.1 ≤ i ∧ i < seg.2 := by
    intro fuel a pos g hp i
    rw [copySparse_at_end k s b _ fuel a pos hp, segmentsOf_at_end s _ g pos hp]
    exact ⟨fun h => absurd h (covered_nil i).mp, fun ⟨_, h, _⟩ => absurd h List.not_mem_nil⟩
  intro fuel
  induction fuel with
  | zero =>
    intro a pos n g _ h
    by_cases hp : pos < src.length
    · rw [copySparse, if_pos hp] at h
      nomatch h
    · exact at_end 0 a pos g (Nat.le_of_not_lt hp)
  | succ f ih =>
    intro a pos n g hg
    by_cases hp : pos < src.length
    · obtain ⟨g', rfl⟩ : ∃ g', g = g' + 1 := ⟨g - 1, by omega⟩
      rw [copySparse, if_pos hp, segmentsOf, if_pos hp]
      simp only []
      obtain ⟨_, g2, _, g4, _⟩ := nextSparseSegments_spec hl hp
      generalize nextSparseSegments s src.length pos = seg at g2 g4 ⊢
      have hcb := (copyBytes_post k src.length hs true b (seg.2 - seg.1 + 1) a seg.1 (seg.2 - seg.1) 0
        (Nat.zero_le _)).1
      generalize copyBytes k true b (seg.2 - seg.1 + 1) a seg.1 (seg.2 - seg.1) 0 = R at hcb ⊢
      split
      · rename_i m hm
        obtain ⟨_, c2, _⟩ := hcb m hm
        rw [Nat.add_zero seg.1, Nat.add_sub_cancel' g2] at c2
        intro hn i
        rw [Run.pre_evs, jobsOf_append, covered_append, c2 i, ih R.next seg.2 n g' (by omega) hn i]
        simp only [List.mem_cons, exists_eq_or_imp]
      · rename_i hnot
        intro hn
        exact absurd hn (hnot n)
    · exact fun _ => at_end (f + 1) a pos g (Nat.le_of_not_lt hp)

/-- `copy_sparse`: on success the destination (zeros of the source's length, as left by create+ftruncate)
becomes the source, whatever the layout, for every legal kernel and legal seek oracle -/
theorem copySparse_exact (k : Kern) (s : SeekOracle) (src : Bytes) (hs : KernSafe k src.length)
    (hl : SeekLegal s src) (b : Nat) (fuel a : Nat) (n : Nat)
    (h : (copySparse k s b src.length fuel a 0).stop = .ok n) :
    runJobs src (List.replicate src.length 0) (jobsOf (copySparse k s b src.length fuel a 0).evs) = src :=
  runJobs_exact src _ fun i hi hc => Classical.byContradiction fun hnz =>
    hc ((copySparse_covered k s src hs hl b fuel a 0 n (src.length + 1) (by omega) h i).mpr
      (segments_cover s src hl i hi hnz))

/-- every block queued for a sparse file with an extent map lies inside a merged extent (no assumption on
the extent list: a reversed extent `stop < start` yields an empty range and no block) -/
theorem parblockJobs_within_merged (len b : Nat) (hb : 0 < b) (es : List Extent) :
    ∀ j ∈ parblockJobs len b true (some es), ∀ i, j.1 ≤ i → i < j.1 + j.2 → covers (mergeExtents es) i :=
  fun j hj i h1 h2 =>
    (covered_extent_ranges (mergeExtents es) i).mp ((covered_flatMap_blocks b hb _ i).mp ⟨j, hj, h1, h2⟩)

theorem nextSparseSegments_allHole (len pos : Nat) :
    nextSparseSegments ⟨fun _ => none, fun _ => none⟩ len pos = (len, len) := rfl

theorem copyBytes_zero (k : Kern) (linux : Bool) (b fuel a pos : Nat) :
    copyBytes k linux b fuel a pos 0 0 = ⟨[], .ok 0, a⟩ := by
  cases fuel <;> rw [copyBytes, if_neg (Nat.lt_irrefl 0)]

theorem copySparse_allHole (k : Kern) (len b a : Nat) :
    copySparse k ⟨fun _ => none, fun _ => none⟩ b len (len + 1) a 0 = ⟨[], .ok len, a⟩ := by
  by_cases h0 : 0 < len
  · unfold copySparse
    simp only [if_pos h0, nextSparseSegments_allHole, Nat.sub_self, copyBytes_zero,
      copySparse_at_end k _ b len len a len (Nat.le_refl _)]
    rfl
  · exact copySparse_at_end k _ b len (len + 1) a 0 (by omega)

end Xcp
