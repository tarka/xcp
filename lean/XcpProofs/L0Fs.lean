import XcpProofs.L0Refine
import XcpProofs.WalkerLemmas
import XcpProofs.L0FsLemmas
/-! Instantiating the refinement theorem with the namespace model: queued operations on plain, pairwise unrelated
targets (with existing parent directories and existing plain sources that nobody writes into) commute with every
other operation of the run — up to `FsEq`, the order of directory entries (two creations in one directory, done in
either order, give entry lists that are permutations of each other).

Formulation.  The relation on states is `FsEq` (L0FsLemmas: same observation at every path, no directory lists a
name twice).  The dynamic predicate is `GoodAllD ops`: `GoodD` for the queued operation itself, and for every
operation of the run "no symbolic link strictly above its target, none at the target either unless the operation
creates a link, none at or above its source" in the current state — without this an operation of the run could
act through a link somewhere else.  The static relation is `IndepIn ops`: `Indep a b`, `b` is an operation of the
run, and the operations of the run are pairwise independent (`PairIndep`, the `hR` hypothesis of the refinement
theorem; needed so that a link created by `b` is not above another operation's target or source).

`Good`/`GoodAll` ask in addition that the source path has fewer than 256 names, a static fact that no commutation
step uses.  The tree developments use `fs_run_refines_sequentialD` (`GoodAllD`); `fs_run_refines_sequential` and
`fs_commutes` (`GoodAll`, which C06 quotes) follow from it. -/
namespace Xcp.L0

open Xcp

/-- static independence of a queued operation `a` and another operation `b` of the same run: `b` is the failure
marker, or their targets are unrelated (neither inside the other) — or `b` (re-)creates an ancestor directory of
`a`'s target — and neither writes into the other's source -/
def Indep (a b : Op) : Prop :=
  b = .fail ∨
  ∃ ta tb, opTarget a = some ta ∧ opTarget b = some tb ∧ NamesOnly ta ∧ NamesOnly tb ∧
    (Unrel ta.names tb.names ∨ ((∃ t, b = .mkdir t) ∧ tb.names <+: ta.names ∧ tb.names ≠ ta.names)) ∧
    (∀ s, srcOf a = some s → NamesOnly s ∧ Unrel s.names tb.names) ∧
    (∀ s, srcOf b = some s → NamesOnly s ∧ Unrel s.names ta.names)

/-- dynamic part, for the queued operation: in state `fs` its target is plain, the target's parent directory
exists, its source is plain and exists -/
structure Good (fs : Fs) (a : Op) : Prop where
  root : fs.root.isDir = true
  tgt : ∃ t, opTarget a = some t ∧ PlainTarget fs t ∧ t.names ≠ [] ∧ t.names.length < 256 ∧
          ∃ es, fs.root.getAt t.names.dropLast = some (.dir es)
  src : ∀ s, srcOf a = some s → PlainTarget fs s ∧ s.names.length < 256 ∧ ∃ x, fs.root.getAt s.names = some x

/-- `L0.Good` without the bound on the length of the source path -/
structure GoodD (fs : Fs) (a : Op) : Prop where
  root : fs.root.isDir = true
  tgt : ∃ t, opTarget a = some t ∧ PlainTarget fs t ∧ t.names ≠ [] ∧ t.names.length < 256 ∧
          ∃ es, fs.root.getAt t.names.dropLast = some (.dir es)
  src : ∀ s, srcOf a = some s → PlainTarget fs s ∧ ∃ x, fs.root.getAt s.names = some x

/-- dynamic part, for any operation of the run: no symbolic link strictly above its target; none at the target
unless the operation creates a link; none at or above its source -/
def Plains (fs : Fs) (x : Op) : Prop :=
  (∀ t, opTarget x = some t → NoLinkAbove fs.root t.names ∧ (isLinkOp x = false → NoLinkUpto fs.root t.names)) ∧
  (∀ s, srcOf x = some s → NoLinkUpto fs.root s.names)

/-- the dynamic predicate of the refinement theorem: the queued operation is good, and no operation of the run can act through a link -/
structure GoodAll (ops : List Op) (fs : Fs) (a : Op) : Prop where
  good : Good fs a
  all : ∀ x ∈ ops, Plains fs x

/-- `GoodAll` with `GoodD` for the queued operation -/
structure GoodAllD (ops : List Op) (fs : Fs) (a : Op) : Prop where
  good : GoodD fs a
  all : ∀ x ∈ ops, Plains fs x

theorem Good.toD {fs : Fs} {a : Op} (h : Good fs a) : GoodD fs a :=
  ⟨h.root, h.tgt, fun s hs => ⟨(h.src s hs).1, (h.src s hs).2.2⟩⟩

theorem GoodD.toGood {fs : Fs} {a : Op} (h : GoodD fs a) (hlen : ∀ s, srcOf a = some s → s.names.length < 256) :
    Good fs a :=
  ⟨h.root, h.tgt, fun s hs => ⟨(h.src s hs).1, hlen s hs, (h.src s hs).2⟩⟩

theorem GoodAll.toD {ops : List Op} {fs : Fs} {a : Op} (h : GoodAll ops fs a) : GoodAllD ops fs a :=
  ⟨h.good.toD, h.all⟩

/-- static: distinct operations of the run, one of them queueable, are independent -/
def PairIndep (ops : List Op) : Prop := ∀ x ∈ ops, ∀ y ∈ ops, x ≠ y → isSync x = false → Indep x y

/-- the static relation of the refinement theorem: `a` is independent of `b`, an operation of a pairwise independent run -/
def IndepIn (ops : List Op) (a b : Op) : Prop := Indep a b ∧ b ∈ ops ∧ PairIndep ops

theorem plainTarget_namesOnly {fs : Fs} {t : RPath} (h : PlainTarget fs t) : NamesOnly t := ⟨h.1, h.2.1, h.2.2.1⟩

theorem plainTarget_noLink {fs : Fs} {t : RPath} (h : PlainTarget fs t) : NoLinkUpto fs.root t.names := h.2.2.2

theorem agree_of_replaced {r r1 : Node} {ta p : List Name} {w : ONode} (A : ReplacedAt r r1 ta w)
    (h : ¬ ta <+: p) : AgreeUpto r r1 p :=
  fun q hq => A.out q (fun hh => h (hh.trans hq))

theorem wf_exec {c : Cfg} {f f' : Fs} {op : Op} (hf : FsEq f f) (hx : execOp f c op = some f') : FsEq f' f' := by
  have := execOp_cong hf c op
  rw [hx] at this
  exact this

/-- what executing `b` (target `tb`) may change, as seen from elsewhere: the common weakening of `ReplacedAt` and
`MkFrame` (observations; `FrameAt` of FsFrame speaks of nodes) -/
structure Frame (fs fs' : Fs) (b : Op) (tb : List Name) : Prop where
  out : ∀ q, ¬ tb <+: q → (¬ q <+: tb ∨ obsAt fs.root q ≠ none) → obsAt fs'.root q = obsAt fs.root q
  links : ∀ q tg, obsAt fs'.root q = some (.link tg) →
    obsAt fs.root q = some (.link tg) ∨ (isLinkOp b = true ∧ q = tb)

theorem frame_of_replaced {fs fs' : Fs} {b : Op} {tb : List Name} {w : ONode} (hw : WOf b w)
    (h : ReplacedAt fs.root fs'.root tb w) : Frame fs fs' b tb where
  out := fun q hq _ => h.out q hq
  links := by
    intro q tg hl
    by_cases hq : tb <+: q
    · obtain ⟨s, hs⟩ := hq
      subst hs
      by_cases hs : s = []
      · subst hs
        rw [List.append_nil] at hl ⊢
        rw [h.here] at hl
        right
        refine ⟨?_, rfl⟩
        cases hb : isLinkOp b with
        | true => rfl
        | false => injection hl with hl; exact absurd hl (hw hb tg)
      · rw [h.below s hs] at hl; cases hl
    · left; rw [← h.out q hq]; exact hl

theorem frame_of_mk {fs fs' : Fs} {b : Op} {tb : List Name} (h : MkFrame fs.root fs'.root tb) :
    Frame fs fs' b tb where
  out := fun q _ hq => by
    rcases h q with h1 | ⟨h1, h2, _⟩
    · exact h1
    · rcases hq with hq | hq
      · exact absurd h1 hq
      · exact absurd h2 hq
  links := fun q tg hl => by
    rcases h q with h1 | ⟨_, _, h3⟩
    · left; rw [← h1]; exact hl
    · rw [h3] at hl; cases hl

theorem exec_frame (c : Cfg) {fs fs' : Fs} {b : Op} {ns : List Name} (pb : OpPlain fs b ns) (hns : ns ≠ [])
    (hroot : fs.root.isDir = true) (hw : fs.root.WF) (hx : execOp fs c b = some fs') : Frame fs fs' b ns := by
  by_cases hm : ∃ t, b = .mkdir t
  · obtain ⟨t, rfl⟩ := hm
    have ht : t = plainPath ns := Option.some.inj pb.tgt
    subst ht
    have := execOp_mkdir_local fs fs c ns hroot (pb.upto rfl) (AgreeUpto.refl _ _)
    rw [hx] at this
    have this : MkInv fs fs ns fs' fs' := this
    exact frame_of_mk this.frame
  · have hnm : ∀ t, b ≠ .mkdir t := fun t h => hm ⟨t, h⟩
    have := execOp_local fs fs c b ns pb hns hroot hw hw hnm (AgreeUpto.refl _ _) (fun _ _ => AgreeUpto.refl _ _)
    rw [hx] at this
    obtain ⟨w, hW, h1, _⟩ : LocalQ (WOf b) fs fs ns fs' fs' := this
    exact frame_of_replaced hW h1

theorem agree_tgt {fs fs' : Fs} {b : Op} {tb ns : List Name} (F : Frame fs fs' b tb)
    (hpar : ParentDir fs.root ns) (h1 : ¬ ns <+: tb) (h2 : ¬ tb <+: ns) : AgreeUpto fs.root fs'.root ns := by
  intro q hq
  apply F.out q (fun h => h2 (h.trans hq))
  by_cases hqe : q = ns
  · subst hqe; exact .inl h1
  · obtain ⟨es, hes⟩ := hpar
    obtain ⟨y, hy⟩ := getAt_prefix_some hes (prefix_dropLast_of_ne hq hqe)
    exact .inr (obsAt_ne_none hy)

theorem agree_src {fs fs' : Fs} {b : Op} {tb ss : List Name} (F : Frame fs fs' b tb)
    (hex : ∃ x, fs.root.getAt ss = some x) (h2 : ¬ tb <+: ss) : AgreeUpto fs.root fs'.root ss := by
  intro q hq
  apply F.out q (fun h => h2 (h.trans hq))
  obtain ⟨x, hx⟩ := hex
  obtain ⟨y, hy⟩ := getAt_prefix_some hx hq
  exact .inr (obsAt_ne_none hy)

theorem good_transfer {fs fs' : Fs} {a : Op} (hg : GoodD fs a)
    (hag : ∀ t, opTarget a = some t → AgreeUpto fs.root fs'.root t.names)
    (hags : ∀ s, srcOf a = some s → AgreeUpto fs.root fs'.root s.names) : GoodD fs' a := by
  obtain ⟨t, ht, hpt, hne, hlen, hpar⟩ := hg.tgt
  have hat := hag t ht
  refine ⟨?_, ⟨t, ht, ⟨hpt.1, hpt.2.1, hpt.2.2.1, hat.noLinkUpto hpt.2.2.2⟩, hne, hlen, hat.parentDir hpar⟩, ?_⟩
  · rw [hat.isDir]; exact hg.root
  · intro s hs
    obtain ⟨hps, x, hx⟩ := hg.src s hs
    have has := hags s hs
    refine ⟨⟨hps.1, hps.2.1, hps.2.2.1, has.noLinkUpto hps.2.2.2⟩, ?_⟩
    have h1 := has s.names (List.prefix_refl _)
    have h2 : (fs'.root.getAt s.names).isSome = true := by
      rw [getAt_isSome_iff, h1, ← getAt_isSome_iff, hx]; rfl
    cases hy : fs'.root.getAt s.names with
    | none => rw [hy] at h2; cases h2
    | some y => exact ⟨y, rfl⟩

theorem isSync_of_isLinkOp {b : Op} (h : isLinkOp b = true) : isSync b = false := by
  cases b <;> simp [isLinkOp] at h <;> rfl

theorem plains_transfer {ops : List Op} {fs fs' : Fs} {b : Op} {tb : RPath} (hbm : b ∈ ops) (hPI : PairIndep ops)
    (htb : opTarget b = some tb) (F : Frame fs fs' b tb.names) (hall : ∀ x ∈ ops, Plains fs x) :
    ∀ x ∈ ops, Plains fs' x := by
  intro x hx
  have claim : ∀ q tg, fs'.root.getAt q = some (.link tg) →
      fs.root.getAt q = some (.link tg) ∨ (isLinkOp b = true ∧ q = tb.names) := by
    intro q tg h
    rw [getAt_link_iff] at h ⊢
    exact F.links q tg h
  -- a link created by `b` is not at or above the target or source of another operation
  have other : x ≠ b → isLinkOp b = true →
      (∀ t, opTarget x = some t → ¬ tb.names <+: t.names) ∧ (∀ s, srcOf x = some s → ¬ tb.names <+: s.names) := by
    intro hxb hlb
    rcases hPI b hbm x hx (fun h => hxb h.symm) (isSync_of_isLinkOp hlb) with hf | ⟨ta', tb', h1, h2, _, _, hrel, _, hsrc⟩
    · subst hf
      exact ⟨fun t ht => (by cases ht), fun s hs => (by cases hs)⟩
    · have e1 : ta' = tb := by rw [htb] at h1; exact (Option.some.inj h1).symm
      subst e1
      refine ⟨?_, fun s hs => (hsrc s hs).2.2⟩
      intro t ht hp
      have e2 : tb' = t := by rw [ht] at h2; exact (Option.some.inj h2).symm
      subst e2
      rcases hrel with hu | ⟨_, hpre, hne⟩
      · exact hu.1 hp
      · exact hne (prefix_antisymm hpre hp)
  refine ⟨?_, ?_⟩
  · intro t ht
    obtain ⟨h1, h2⟩ := (hall x hx).1 t ht
    refine ⟨?_, ?_⟩
    · intro p hp hne tg hg
      rcases claim p tg hg with h | ⟨hlb, hq⟩
      · exact h1 p hp hne tg h
      · subst hq
        by_cases hxb : x = b
        · subst hxb
          rw [htb] at ht
          have := Option.some.inj ht
          subst this
          exact hne rfl
        · exact (other hxb hlb).1 t ht hp
    · intro hnl p hp tg hg
      rcases claim p tg hg with h | ⟨hlb, hq⟩
      · exact h2 hnl p hp tg h
      · subst hq
        by_cases hxb : x = b
        · subst hxb; rw [hlb] at hnl; cases hnl
        · exact (other hxb hlb).1 t ht hp
  · intro s hs p hp tg hg
    rcases claim p tg hg with h | ⟨hlb, hq⟩
    · exact (hall x hx).2 s hs p hp tg h
    · subst hq
      by_cases hxb : x = b
      · subst hxb
        cases x <;> simp [isLinkOp] at hlb
        cases hs
      · exact (other hxb hlb).2 s hs hp

theorem opPlain_of_good {fs : Fs} {a : Op} {ta : RPath} (hg : GoodD fs a) (hta : opTarget a = some ta) :
    OpPlain fs a ta.names := by
  obtain ⟨t, ht, hpt, _, _, _⟩ := hg.tgt
  have : t = ta := by rw [hta] at ht; exact (Option.some.inj ht).symm
  subst this
  refine ⟨?_, (plainTarget_noLink hpt).above, fun _ => plainTarget_noLink hpt, ?_⟩
  · rw [hta, ← eq_plainPath (plainTarget_namesOnly hpt)]
  · intro s hs
    obtain ⟨hps, _⟩ := hg.src s hs
    exact ⟨eq_plainPath (plainTarget_namesOnly hps), plainTarget_noLink hps⟩

theorem opPlain_of_plains {fs : Fs} {x : Op} {t : RPath} (ht : opTarget x = some t) (hn : NamesOnly t)
    (hs : ∀ s, srcOf x = some s → NamesOnly s) (hp : Plains fs x) : OpPlain fs x t.names := by
  obtain ⟨h1, h2⟩ := hp.1 t ht
  refine ⟨?_, h1, h2, ?_⟩
  · rw [ht, ← eq_plainPath hn]
  · intro s hss
    exact ⟨eq_plainPath (hs s hss), hp.2 s hss⟩

/-- `b` re-creates an existing ancestor directory of `a`'s target: nothing happens -/
theorem exec_ancestor_mkdir (c : Cfg) {fs : Fs} {ta tb : RPath} (hntb : NamesOnly tb)
    (hlen : ta.names.length < 256) (hpar : ParentDir fs.root ta.names)
    (hpre : tb.names <+: ta.names) (hne : tb.names ≠ ta.names) : execOp fs c (.mkdir tb) = some fs := by
  obtain ⟨es, hes⟩ := hpar
  obtain ⟨es', hes'⟩ := getAt_prefix_dir hes (prefix_dropLast_of_ne hpre hne)
  have h := mkdirAll_of_dir fs tb.names es' (Nat.lt_of_le_of_lt hpre.length_le hlen) hes'
  rw [← eq_plainPath hntb] at h
  exact execOp_mkdir_some.2 h

theorem preserved_all (c : Cfg) (ops : List Op) (fs fs' : Fs) (a b : Op) (hfs : FsEq fs fs)
    (hg : GoodAllD ops fs a) (hR : IndepIn ops a b) (hx : execOp fs c b = some fs') : GoodAllD ops fs' a := by
  obtain ⟨hI, hbm, hPI⟩ := hR
  rcases hI with hfail | ⟨ta, tb, hta, htb, nta, ntb, hrel, hsa, hsb⟩
  · subst hfail; simp [execOp] at hx
  · obtain ⟨t, ht, hpt, hne, hlen, hpar⟩ := hg.good.tgt
    have : t = ta := by rw [hta] at ht; exact (Option.some.inj ht).symm
    subst this
    rcases hrel with hun | ⟨⟨t', hbt⟩, hpre, hneq⟩
    · have htbne : tb.names ≠ [] := fun h => hun.2 (h ▸ List.nil_prefix)
      have pb := opPlain_of_plains htb ntb (fun s hs => (hsb s hs).1) (hg.all b hbm)
      have F := exec_frame c pb htbne hg.good.root hfs.2.1 hx
      refine ⟨good_transfer hg.good ?_ ?_, plains_transfer hbm hPI htb F hg.all⟩
      · intro t' ht'
        have : t' = t := by rw [hta] at ht'; exact (Option.some.inj ht').symm
        subst this
        exact agree_tgt F hpar hun.1 hun.2
      · intro s hs
        exact agree_src F (hg.good.src s hs).2 (hsa s hs).2.2
    · subst hbt
      have : t' = tb := Option.some.inj htb
      subst this
      have := exec_ancestor_mkdir c ntb hlen hpar hpre hneq
      rw [this] at hx
      cases hx
      exact hg

theorem comm_all (c : Cfg) (ops : List Op) (fs : Fs) (a b : Op) (hfs : FsEq fs fs)
    (hg : GoodAllD ops fs a) (hR : IndepIn ops a b) (hs : isSync a = false) :
    ORel FsEq ((execOp fs c a).bind (fun f1 => execOp f1 c b)) ((execOp fs c b).bind (fun f2 => execOp f2 c a)) := by
  obtain ⟨hI, hbm, hPI⟩ := hR
  have hnma : ∀ t, a ≠ .mkdir t := by intro t h; subst h; cases hs
  rcases hI with hfail | ⟨ta, tb, hta, htb, nta, ntb, hrel, hsa, hsb⟩
  · subst hfail
    cases execOp fs c a <;> exact trivial
  · obtain ⟨t, ht, hpt, hne, hlen, hpar⟩ := hg.good.tgt
    have : t = ta := by rw [hta] at ht; exact (Option.some.inj ht).symm
    subst this
    have pa := opPlain_of_good hg.good hta
    have hroot := hg.good.root
    have hw := hfs.2.1
    -- the effect of `a` on `fs`
    have A0 : ∀ fa, execOp fs c a = some fa → ∃ wa, ReplacedAt fs.root fa.root t.names wa := by
      intro fa hxa
      have := execOp_local fs fs c a t.names pa hne hroot hw hw hnma (AgreeUpto.refl _ _)
        (fun _ _ => AgreeUpto.refl _ _)
      rw [hxa] at this
      obtain ⟨w, _, h1, _⟩ : LocalQ (WOf a) fs fs t.names fa fa := this
      exact ⟨w, h1⟩
    rcases hrel with hun | ⟨⟨t', hbt⟩, hpre, hneq⟩
    · have htbne : tb.names ≠ [] := fun h => hun.2 (h ▸ List.nil_prefix)
      have pb := opPlain_of_plains htb ntb (fun s hs => (hsb s hs).1) (hg.all b hbm)
      -- `a` run after `b`
      have T1 : ∀ fb, execOp fs c b = some fb →
          ORel (LocalQ (WOf a) fs fb t.names) (execOp fs c a) (execOp fb c a) := by
        intro fb hxb
        have F := exec_frame c pb htbne hroot hw hxb
        exact execOp_local fs fb c a t.names pa hne hroot hw (wf_exec hfs hxb).2.1 hnma
          (agree_tgt F hpar hun.1 hun.2)
          (fun s hs => agree_src F (hg.good.src s hs).2 (hsa s hs).2.2)
      -- whatever the order, the result is well-formed and the working directory that of `fs`
      have close : ∀ fa fb fab fba, execOp fs c a = some fa → execOp fs c b = some fb →
          execOp fa c b = some fab → execOp fb c a = some fba → SameObs fab.root fba.root → FsEq fab fba := by
        intro fa fb fab fba hxa hxb hxab hxba h
        refine ⟨?_, (wf_exec (wf_exec hfs hxa) hxab).2.1, (wf_exec (wf_exec hfs hxb) hxba).2.1, h⟩
        rw [execOp_cwd _ _ _ _ hxab, execOp_cwd _ _ _ _ hxa, execOp_cwd _ _ _ _ hxba, execOp_cwd _ _ _ _ hxb]
      by_cases hm : ∃ t', b = .mkdir t'
      · obtain ⟨t', rfl⟩ := hm
        have ht' : t' = plainPath tb.names := Option.some.inj pb.tgt
        refine ORel.square (x := fun f => execOp f c a) (y := fun f => execOp f c (.mkdir t'))
          (Q2 := fun fa fb fab => MkInv fs fa tb.names fb fab) T1 ?_ ?_
        · intro fa hxa
          obtain ⟨wa, A⟩ := A0 fa hxa
          rw [ht']
          exact execOp_mkdir_local fs fa c tb.names hroot (pb.upto rfl) (agree_of_replaced A hun.1)
        · rintro fa fb fab fba hxa hxb hxab hxba ⟨wa, _, A1, A2⟩ M
          exact close fa fb fab fba hxa hxb hxab hxba (mkFrame_comm hun.1 A1 A2 M.frame M.frame' M.agree)
      · have hnmb : ∀ t', b ≠ .mkdir t' := fun t' h => hm ⟨t', h⟩
        refine ORel.square (x := fun f => execOp f c a) (y := fun f => execOp f c b)
          (Q2 := fun fa fb fab => LocalQ (WOf b) fs fa tb.names fb fab) T1 ?_ ?_
        · intro fa hxa
          obtain ⟨wa, A⟩ := A0 fa hxa
          exact execOp_local fs fa c b tb.names pb htbne hroot hw (wf_exec hfs hxa).2.1 hnmb
            (agree_of_replaced A hun.1) (fun s hs => agree_of_replaced A (hsb s hs).2.2)
        · rintro fa fb fab fba hxa hxb hxab hxba ⟨wa, _, A1, A2⟩ ⟨wb, _, B1, B2⟩
          exact close fa fb fab fba hxa hxb hxab hxba (replacedAt_comm hun.1 hun.2 A1 A2 B1 B2)
    · subst hbt
      have : t' = tb := Option.some.inj htb
      subst this
      have hxb := exec_ancestor_mkdir c ntb hlen hpar hpre hneq
      rw [hxb]
      simp only [Option.bind_some]
      cases hxa : execOp fs c a with
      | none => exact trivial
      | some fa =>
        obtain ⟨wa, A1⟩ := A0 fa hxa
        -- in `fa` the parent of `a`'s target is the directory it was, so `b` does nothing there either
        have hag : AgreeUpto fs.root fa.root t.names.dropLast :=
          agree_of_replaced A1 (not_prefix_dropLast hne)
        have hxab := exec_ancestor_mkdir c ntb hlen (hpar.elim fun _ hes => hag.dir hes) hpre hneq
        simp only [Option.bind_some]
        rw [hxab]
        exact wf_exec hfs hxa

/-- Queued operations on plain, pairwise unrelated targets commute with every other operation of the run, up to
the order of directory entries. -/
theorem fs_commutesD (c : Cfg) (ops : List Op) : Commutes c FsEq (GoodAllD ops) (IndepIn ops) where
  symm := fun _ _ h => h.symm
  trans := fun _ _ _ h1 h2 => h1.trans h2
  cong := fun _ _ op h => execOp_cong h c op
  preserved := preserved_all c ops
  comm := comm_all c ops

theorem fs_commutes (c : Cfg) (ops : List Op) : Commutes c FsEq (GoodAll ops) (IndepIn ops) where
  symm := (fs_commutesD c ops).symm
  trans := (fs_commutesD c ops).trans
  cong := (fs_commutesD c ops).cong
  preserved := fun fs fs' a b hfs hg hR hx =>
    have g := preserved_all c ops fs fs' a b hfs hg.toD hR hx
    ⟨g.good.toGood fun s hs => (hg.good.src s hs).2.1, g.all⟩
  comm := fun fs a b hfs hg => comm_all c ops fs a b hfs hg.toD

/-- The refinement theorem for the namespace model.  From a well-formed initial state, if the operations of the
run are pairwise independent and every operation is good — and all operations of the run are link-free in the
sense of `Plains` — at the moment the walker hands it over, then every complete failure-free concurrent run ends
in the state of the sequential execution, up to the order of directory entries. -/
theorem fs_run_refines_sequentialD (c : Cfg) (fs0 : Fs) (ops : List Op) (h0 : FsEq fs0 fs0) (hnd : ops.Nodup)
    (hI : PairIndep ops)
    (hand : ∀ (ls : List Label) (s : St) (op : Op) (r : List Op), run c (init fs0 ops) ls = some s →
              s.failed = false → s.todo = op :: r → isSync op = false → GoodAllD ops s.fs op)
    (ls : List Label) (s : St) (hrun : run c (init fs0 ops) ls = some s)
    (hfin : final s = true) (hok : s.failed = false) :
    ∃ f, seqExec c (some fs0) ops = some f ∧ FsEq f s.fs :=
  complete_run_refines_sequential c FsEq (GoodAllD ops) (IndepIn ops) (fs_commutesD c ops) fs0 ops h0 hnd
    (fun a ha b hb hab hs => ⟨hI a ha b hb hab hs, hb, hI⟩) hand ls s hrun hfin hok

theorem fs_run_refines_sequential (c : Cfg) (fs0 : Fs) (ops : List Op) (h0 : FsEq fs0 fs0) (hnd : ops.Nodup)
    (hI : PairIndep ops)
    (hand : ∀ (ls : List Label) (s : St) (op : Op) (r : List Op), run c (init fs0 ops) ls = some s →
              s.failed = false → s.todo = op :: r → isSync op = false → GoodAll ops s.fs op)
    (ls : List Label) (s : St) (hrun : run c (init fs0 ops) ls = some s)
    (hfin : final s = true) (hok : s.failed = false) :
    ∃ f, seqExec c (some fs0) ops = some f ∧ FsEq f s.fs :=
  fs_run_refines_sequentialD c fs0 ops h0 hnd hI (fun ls s op r h1 h2 h3 h4 => (hand ls s op r h1 h2 h3 h4).toD)
    ls s hrun hfin hok

end Xcp.L0
