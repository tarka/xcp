import XcpProofs.FsDefs
import XcpProofs.ListAux
/-! # The tree

What `getAt` sees after a `setAt` or `delAt`.  Both are `modAt`, a change of the entry list of the directory at
`par`, so each such fact is proved once, for `modAt`.  The *observation* of a path is the kind of object there and
its payload unless it is a directory; `FsEq` is equality of file systems up to the order of directory entries
(`Node` equality is structural: two insertions into one directory in different orders give different trees).
Also here: `Kept`/`Preserved` are reflexive and transitive and hold of an insertion where nothing was; the number of
symbolic links in a tree (`linkCount`) does not grow under `setAt` of a link-free node or `delAt`.  Nothing here
mentions path resolution. -/
namespace Xcp

theorem entGet_entSet (es : Entries) (n m : Name) (v : Node) :
    entGet (entSet es n v) m = if n = m then some v else entGet es m := by
  induction es with
  | nil => simp [entSet, entGet]
  | cons kv r ih =>
    obtain ⟨k, w⟩ := kv
    by_cases hk : k = n
    · subst hk
      by_cases hm : k = m <;> simp [entSet, entGet, hm]
    · by_cases hm : n = m
      · subst hm; simp [entSet, entGet, hk, ih]
      · by_cases hkm : k = m
        · subst hkm; simp [entSet, entGet, hk, hm]
        · simp [entSet, entGet, hk, hm, hkm, ih]

theorem entGet_entSet_self (es : Entries) (n : Name) (v : Node) : entGet (entSet es n v) n = some v := by
  simp [entGet_entSet]

theorem entGet_entSet_ne (es : Entries) (n m : Name) (v : Node) (h : n ≠ m) :
    entGet (entSet es n v) m = entGet es m := by
  simp [entGet_entSet, h]

theorem entGet_entDel_ne (es : Entries) (n m : Name) (h : n ≠ m) :
    entGet (entDel es n) m = entGet es m := by
  induction es with
  | nil => simp [entDel]
  | cons kv r ih =>
    obtain ⟨k, w⟩ := kv
    by_cases hk : k = n
    · subst hk; simp [entDel, entGet, h]
    · by_cases hkm : k = m
      · subst hkm; simp [entDel, entGet, hk]
      · simp [entDel, entGet, hk, hkm, ih]

theorem entSet_same (es : Entries) (n : Name) (c : Node) (h : entGet es n = some c) : entSet es n c = es := by
  induction es with
  | nil => cases h
  | cons kv r ih =>
    obtain ⟨k, w⟩ := kv
    by_cases hk : k = n
    · simp only [entGet, hk, if_true, Option.some.injEq] at h
      simp only [entSet, hk, if_true, h]
    · simp only [entGet, hk, if_false] at h
      simp only [entSet, hk, if_false, ih h]

theorem entGet_none_of_not_mem (es : Entries) (n : Name) (h : n ∉ es.map (·.1)) : entGet es n = none := by
  induction es with
  | nil => rfl
  | cons kv r ih =>
    obtain ⟨k, w⟩ := kv
    simp only [List.map_cons, List.mem_cons, not_or] at h
    simp only [entGet]
    rw [if_neg (fun hk => h.1 hk.symm)]
    exact ih h.2

theorem keys_entSet (es : Entries) (n : Name) (v : Node) :
    (entSet es n v).map (·.1) = if n ∈ es.map (·.1) then es.map (·.1) else es.map (·.1) ++ [n] := by
  induction es with
  | nil => simp [entSet]
  | cons kv r ih =>
    obtain ⟨k, w⟩ := kv
    by_cases hk : k = n
    · subst hk; simp [entSet]
    · have hk' : ¬ n = k := fun h => hk h.symm
      simp only [entSet, hk, if_false, List.map_cons, ih, List.mem_cons, hk', false_or]
      split <;> simp

theorem nodup_keys_entSet (es : Entries) (n : Name) (v : Node) (h : (es.map (·.1)).Nodup) :
    ((entSet es n v).map (·.1)).Nodup := by
  rw [keys_entSet]
  split
  · exact h
  · rename_i hn
    rw [List.nodup_append]
    refine ⟨h, by simp, ?_⟩
    intro a ha b hb
    simp only [List.mem_singleton] at hb
    subst hb
    intro hab; subst hab; exact hn ha

theorem keys_entDel_sublist (es : Entries) (n : Name) : ((entDel es n).map (·.1)).Sublist (es.map (·.1)) := by
  induction es with
  | nil => simp [entDel]
  | cons kv r ih =>
    obtain ⟨k, w⟩ := kv
    simp only [entDel]
    split
    · simp
    · simp only [List.map_cons]; exact ih.cons_cons _

theorem entGet_entDel_self (es : Entries) (n : Name) (h : (es.map (·.1)).Nodup) :
    entGet (entDel es n) n = none := by
  induction es with
  | nil => rfl
  | cons kv r ih =>
    obtain ⟨k, w⟩ := kv
    simp only [List.map_cons, List.nodup_cons] at h
    simp only [entDel]
    split
    · rename_i hk
      subst hk
      exact entGet_none_of_not_mem _ _ h.1
    · rename_i hk
      simp only [entGet, hk, if_false]
      exact ih h.2

@[simp] theorem getAt_nil (nd : Node) : nd.getAt [] = some nd := by
  cases nd <;> rfl

theorem getAt_dir_cons (es : Entries) (n : Name) (r : List Name) :
    (Node.dir es).getAt (n :: r) = (entGet es n).bind fun c => c.getAt r := by
  rw [Node.getAt]
  cases entGet es n <;> rfl

theorem getAt_nondir (nd : Node) (n : Name) (r : List Name) (h : nd.isDir = false) :
    nd.getAt (n :: r) = none := by
  cases nd <;> simp [Node.isDir] at h <;> rfl

@[simp] theorem setAt_nil (nd v : Node) : nd.setAt [] v = v := by
  cases nd <;> rfl

theorem setAt_dir_single (es : Entries) (n : Name) (v : Node) :
    (Node.dir es).setAt [n] v = .dir (entSet es n v) := by
  rw [Node.setAt]

theorem setAt_dir_cons (es : Entries) (n m : Name) (r : List Name) (v : Node) :
    (Node.dir es).setAt (n :: m :: r) v =
      match entGet es n with
      | some c => .dir (entSet es n (c.setAt (m :: r) v))
      | none => .dir es := by
  rw [Node.setAt]
  · cases entGet es n <;> rfl
  · intro h; cases h

theorem setAt_nondir (nd : Node) (n : Name) (r : List Name) (v : Node) (h : nd.isDir = false) :
    nd.setAt (n :: r) v = nd := by
  cases nd <;> simp [Node.isDir] at h <;> simp [Node.setAt]

@[simp] theorem delAt_nil (nd : Node) : nd.delAt [] = nd := by
  cases nd <;> rfl

theorem delAt_dir_single (es : Entries) (n : Name) :
    (Node.dir es).delAt [n] = .dir (entDel es n) := by
  rw [Node.delAt]

theorem delAt_dir_cons (es : Entries) (n m : Name) (r : List Name) :
    (Node.dir es).delAt (n :: m :: r) =
      match entGet es n with
      | some c => .dir (entSet es n (c.delAt (m :: r)))
      | none => .dir es := by
  rw [Node.delAt]
  · cases entGet es n <;> rfl
  · intro h; cases h

theorem delAt_nondir (nd : Node) (n : Name) (r : List Name) (h : nd.isDir = false) :
    nd.delAt (n :: r) = nd := by
  cases nd <;> simp [Node.isDir] at h <;> simp [Node.delAt]

theorem Node.getAt_cons_some {nd : Node} {n : Name} {r : List Name} {x : Node}
    (h : nd.getAt (n :: r) = some x) : ∃ es c, nd = .dir es ∧ entGet es n = some c ∧ c.getAt r = some x := by
  cases nd with
  | dir es =>
    simp only [Node.getAt] at h
    cases hc : entGet es n with
    | none => simp [hc] at h
    | some c => simp only [hc] at h; exact ⟨es, c, rfl, hc, h⟩
  | file _ => simp [Node.getAt] at h
  | link _ => simp [Node.getAt] at h
  | special _ _ => simp [Node.getAt] at h

theorem Node.getAt_append (nd : Node) (a b : List Name) :
    nd.getAt (a ++ b) = (nd.getAt a).bind (fun x => x.getAt b) := by
  induction a generalizing nd with
  | nil => simp [Node.getAt]
  | cons n r ih =>
    cases nd with
    | dir es =>
      simp only [List.cons_append, Node.getAt]
      cases hc : entGet es n with
      | none => simp
      | some c => simp only []; exact ih c
    | file _ => simp [Node.getAt]
    | link _ => simp [Node.getAt]
    | special _ _ => simp [Node.getAt]

theorem getAt_append_none (root : Node) (p s : List Name) (h : root.getAt p = none) :
    root.getAt (p ++ s) = none := by
  rw [Node.getAt_append, h]
  rfl

theorem getAt_append_dir {root : Node} {p s : List Name} {x : Node} (h : root.getAt (p ++ s) = some x)
    (hs : s ≠ []) : ∃ es, root.getAt p = some (.dir es) := by
  rw [Node.getAt_append] at h
  cases hp : root.getAt p with
  | none => rw [hp] at h; cases h
  | some y =>
    rw [hp, Option.bind_some] at h
    cases s with
    | nil => exact absurd rfl hs
    | cons a s' =>
      obtain ⟨es, _, hy, _, _⟩ := Node.getAt_cons_some h
      exact ⟨es, by rw [hy]⟩

theorem getAt_below_nondir {root : Node} {p : List Name} (h : ∀ es, root.getAt p ≠ some (.dir es)) (n : Name)
    (s : List Name) : root.getAt (p ++ n :: s) = none := by
  cases hg : root.getAt (p ++ n :: s) with
  | none => rfl
  | some x =>
    obtain ⟨es, hes⟩ := getAt_append_dir hg (List.cons_ne_nil n s)
    exact absurd hes (h es)

theorem getAt_prefix_some {r : Node} {p q : List Name} {x : Node} (h : r.getAt p = some x) (hq : q <+: p) :
    ∃ y, r.getAt q = some y := by
  obtain ⟨s, rfl⟩ := hq
  cases hy : r.getAt q with
  | none => rw [getAt_append_none r q s hy] at h; cases h
  | some y => exact ⟨y, rfl⟩

theorem getAt_prefix_dir {r : Node} {p q : List Name} {es : Entries} (h : r.getAt p = some (.dir es))
    (hq : q <+: p) : ∃ es', r.getAt q = some (.dir es') := by
  obtain ⟨s, rfl⟩ := hq
  cases s with
  | nil => exact ⟨es, by rw [← h, List.append_nil]⟩
  | cons m s' => exact getAt_append_dir h (List.cons_ne_nil m s')

theorem prefix_cases (p q : List Name) :
    (∃ s, q = p ++ s) ∨ (q <+: p ∧ q ≠ p) ∨ (¬ p <+: q ∧ ¬ q <+: p) := by
  by_cases h1 : p <+: q
  · obtain ⟨s, hs⟩ := h1
    exact .inl ⟨s, hs.symm⟩
  · by_cases h2 : q <+: p
    · refine .inr (.inl ⟨h2, ?_⟩)
      intro h; subst h; exact h1 (List.prefix_refl _)
    · exact .inr (.inr ⟨h1, h2⟩)

theorem prefix_antisymm {p q : List Name} (h1 : p <+: q) (h2 : q <+: p) : p = q :=
  h1.eq_of_length (Nat.le_antisymm h1.length_le h2.length_le)

theorem not_both_prefix {p q x : List Name} (h1 : ¬ p <+: q) (h2 : ¬ q <+: p) (hp : p <+: x) (hq : q <+: x) :
    False := by
  rcases List.prefix_or_prefix_of_prefix hp hq with h | h
  · exact h1 h
  · exact h2 h

/-- neither path is at or below the other -/
def L0.Unrel (p q : List Name) : Prop := ¬ p <+: q ∧ ¬ q <+: p

theorem L0.Unrel.symm {p q : List Name} (h : L0.Unrel p q) : L0.Unrel q p := ⟨h.2, h.1⟩

theorem L0.Unrel.ext {sn tn : List Name} (h : L0.Unrel sn tn) (s : List Name) : L0.Unrel (sn ++ s) tn := by
  refine ⟨fun h' => h.1 ((List.prefix_append _ _).trans h'), ?_⟩
  intro h'
  rcases List.prefix_or_prefix_of_prefix h' (List.prefix_append sn s) with h' | h'
  · exact h.2 h'
  · exact h.1 h'

theorem L0.Unrel.child {sn tn : List Name} (h : L0.Unrel sn tn) (m : Name) : L0.Unrel (sn ++ [m]) (tn ++ [m]) := by
  constructor
  · intro h'
    rcases List.prefix_concat_iff.1 h' with h' | h'
    · exact h.1 ((List.append_cancel_right h') ▸ List.prefix_refl _)
    · exact (h.ext [m]).1 h'
  · intro h'
    rcases List.prefix_concat_iff.1 h' with h' | h'
    · exact h.2 ((List.append_cancel_right h') ▸ List.prefix_refl _)
    · exact (h.symm.ext [m]).1 h'

theorem L0.Unrel.append_right {q T : List Name} (h : L0.Unrel q T) (rel : List Name) : L0.Unrel q (T ++ rel) :=
  (h.symm.ext rel).symm

theorem prefix_dropLast_of_ne {q ns : List Name} (h : q <+: ns) (hne : q ≠ ns) : q <+: ns.dropLast := by
  rcases List.eq_nil_or_concat ns with h0 | ⟨par, n, h0⟩
  · subst h0; exact absurd (List.prefix_nil.1 h) hne
  · subst h0
    simp only [List.concat_eq_append] at h hne ⊢
    rw [List.dropLast_concat]
    rcases List.prefix_concat_iff.1 h with h1 | h1
    · exact absurd h1 hne
    · exact h1

theorem not_prefix_dropLast {ns : List Name} (hns : ns ≠ []) : ¬ ns <+: ns.dropLast := by
  rcases List.eq_nil_or_concat ns with rfl | ⟨par, n, rfl⟩
  · exact absurd rfl hns
  · rw [List.concat_eq_append, List.dropLast_concat]
    intro h
    have := h.length_le
    rw [List.length_append, List.length_singleton] at this
    exact Nat.not_succ_le_self _ this

/-- apply `g` to the entry list of the directory at `par`, if there is one: what `setAt` and `delAt` do at
`par ++ [n]` -/
def Node.modAt : Node → List Name → (Entries → Entries) → Node
  | .dir es, [], g => .dir (g es)
  | .dir es, a :: r, g =>
    match entGet es a with
    | some c => .dir (entSet es a (c.modAt r g))
    | none => .dir es
  | nd, _, _ => nd

theorem modAt_dir_cons (es : Entries) (a : Name) (r : List Name) (g : Entries → Entries) :
    (Node.dir es).modAt (a :: r) g =
      match entGet es a with
      | some c => .dir (entSet es a (c.modAt r g))
      | none => .dir es := by
  rw [Node.modAt]

/-- a function with the step equations of `setAt`/`delAt` is `modAt` -/
theorem eq_modAt (F : Node → List Name → Node) (g : Entries → Entries) (n : Name)
    (single : ∀ es, F (.dir es) [n] = .dir (g es))
    (cons : ∀ es a m r, F (.dir es) (a :: m :: r) =
      match entGet es a with
      | some c => .dir (entSet es a (F c (m :: r)))
      | none => .dir es)
    (nondir : ∀ nd a r, nd.isDir = false → F nd (a :: r) = nd) (par : List Name) (root : Node) :
    F root (par ++ [n]) = root.modAt par g := by
  induction par generalizing root with
  | nil =>
    cases root with
    | dir es => exact single es
    | _ => exact nondir _ n [] rfl
  | cons a r ih =>
    cases root with
    | dir es =>
      cases hrn : r ++ [n] with
      | nil => exact absurd hrn (by simp)
      | cons b t =>
        rw [List.cons_append, hrn, cons, modAt_dir_cons, ← hrn]
        cases entGet es a with
        | none => rfl
        | some c => simp only [ih c]
    | _ => exact nondir _ a _ rfl

theorem setAt_snoc (root : Node) (par : List Name) (n : Name) (v : Node) :
    root.setAt (par ++ [n]) v = root.modAt par (fun es => entSet es n v) :=
  eq_modAt (fun r p => r.setAt p v) _ n (fun es => setAt_dir_single es n v)
    (fun es a m r => setAt_dir_cons es a m r v) (fun nd a r h => setAt_nondir nd a r v h) par root

theorem delAt_snoc (root : Node) (par : List Name) (n : Name) :
    root.delAt (par ++ [n]) = root.modAt par (fun es => entDel es n) :=
  eq_modAt (fun r p => r.delAt p) _ n (fun es => delAt_dir_single es n)
    (fun es a m r => delAt_dir_cons es a m r) (fun nd a r h => delAt_nondir nd a r h) par root

theorem getAt_modAt_unrelated {n : Name} {g : Entries → Entries}
    (hg : ∀ es m, n ≠ m → entGet (g es) m = entGet es m) (par : List Name) (root : Node)
    (q : List Name) (h1 : ¬ par ++ [n] <+: q) (h2 : ¬ q <+: par ++ [n]) :
    (root.modAt par g).getAt q = root.getAt q := by
  induction par generalizing root q with
  | nil =>
    cases root with
    | dir es =>
      cases q with
      | nil => exact absurd List.nil_prefix h2
      | cons m q' =>
        have hnm : n ≠ m := fun h => h1 (h ▸ List.cons_prefix_cons.2 ⟨rfl, List.nil_prefix⟩)
        rw [Node.modAt, getAt_dir_cons, getAt_dir_cons, hg es m hnm]
    | _ => rfl
  | cons a r ih =>
    cases root with
    | dir es =>
      cases q with
      | nil => exact absurd List.nil_prefix h2
      | cons m q' =>
        rw [modAt_dir_cons]
        cases hc : entGet es a with
        | none => rfl
        | some c =>
          rw [getAt_dir_cons, getAt_dir_cons]
          by_cases ham : a = m
          · subst ham
            rw [entGet_entSet_self, hc]
            exact ih c q' (fun h => h1 (List.cons_prefix_cons.2 ⟨rfl, h⟩))
              (fun h => h2 (List.cons_prefix_cons.2 ⟨rfl, h⟩))
          · rw [entGet_entSet_ne _ _ _ _ ham]
    | _ => rfl

/-- what may happen to a proper ancestor of a place that is set or deleted: nothing, or it was a directory and
still is one -/
def DirOrSame (a b : Option Node) : Prop := b = a ∨ ∃ es es', a = some (.dir es) ∧ b = some (.dir es')

theorem getAt_modAt_ancestor (g : Entries → Entries) (par : List Name) (root : Node) (q : List Name)
    (h : q <+: par) : DirOrSame (root.getAt q) ((root.modAt par g).getAt q) := by
  induction par generalizing root q with
  | nil =>
    rw [List.prefix_nil.1 h]
    cases root with
    | dir es => exact .inr ⟨_, _, rfl, rfl⟩
    | _ => exact .inl rfl
  | cons a r ih =>
    cases root with
    | dir es =>
      rw [modAt_dir_cons]
      cases hc : entGet es a with
      | none => exact .inl rfl
      | some c =>
        cases q with
        | nil => exact .inr ⟨_, _, rfl, rfl⟩
        | cons m q' =>
          obtain ⟨rfl, hq'⟩ := List.cons_prefix_cons.1 h
          rw [getAt_dir_cons, getAt_dir_cons, entGet_entSet_self, hc]
          exact ih c q' hq'
    | _ => exact .inl rfl

theorem getAt_modAt_self (g : Entries → Entries) (par : List Name) (root : Node) (es : Entries)
    (h : root.getAt par = some (.dir es)) : (root.modAt par g).getAt par = some (.dir (g es)) := by
  induction par generalizing root with
  | nil =>
    rw [getAt_nil] at h
    cases h
    rfl
  | cons a r ih =>
    obtain ⟨es', c, rfl, hc, hcr⟩ := Node.getAt_cons_some h
    rw [modAt_dir_cons, hc, getAt_dir_cons, entGet_entSet_self]
    exact ih c hcr

theorem modAt_noop (g : Entries → Entries) (par : List Name) (root : Node)
    (h : ∀ es, root.getAt par ≠ some (.dir es)) : root.modAt par g = root := by
  induction par generalizing root with
  | nil =>
    cases root with
    | dir es => exact absurd (getAt_nil _) (h es)
    | _ => rfl
  | cons a r ih =>
    cases root with
    | dir es =>
      rw [modAt_dir_cons]
      cases hc : entGet es a with
      | none => rfl
      | some c =>
        have hcn : c.modAt r g = c := ih c (fun es' he => h es' (by rw [getAt_dir_cons, hc]; exact he))
        simp only [hcn, entSet_same es a c hc]
    | _ => rfl

theorem modAt_isDir (g : Entries → Entries) (par : List Name) (root : Node) (h : root.isDir = true) :
    (root.modAt par g).isDir = true := by
  cases root with
  | dir es =>
    cases par with
    | nil => rfl
    | cons a r => rw [modAt_dir_cons]; cases entGet es a <;> rfl
  | _ => cases h

theorem getAt_setAt_unrelated (root : Node) (p q : List Name) (v : Node)
    (h1 : ¬ p <+: q) (h2 : ¬ q <+: p) : (root.setAt p v).getAt q = root.getAt q := by
  rcases List.eq_nil_or_concat p with rfl | ⟨par, n, rfl⟩
  · exact absurd List.nil_prefix h1
  · rw [List.concat_eq_append] at h1 h2 ⊢
    rw [setAt_snoc]
    exact getAt_modAt_unrelated (fun es m h => entGet_entSet_ne es n m v h) par root q h1 h2

theorem getAt_delAt_unrelated (root : Node) (p q : List Name)
    (h1 : ¬ p <+: q) (h2 : ¬ q <+: p) : (root.delAt p).getAt q = root.getAt q := by
  rcases List.eq_nil_or_concat p with rfl | ⟨par, n, rfl⟩
  · exact absurd List.nil_prefix h1
  · rw [List.concat_eq_append] at h1 h2 ⊢
    rw [delAt_snoc]
    exact getAt_modAt_unrelated (fun es m h => entGet_entDel_ne es n m h) par root q h1 h2

theorem getAt_setAt_ancestor (root : Node) (p q : List Name) (v : Node) (h1 : q <+: p) (h2 : q ≠ p) :
    DirOrSame (root.getAt q) ((root.setAt p v).getAt q) := by
  rcases List.eq_nil_or_concat p with rfl | ⟨par, n, rfl⟩
  · exact absurd (List.prefix_nil.1 h1) h2
  · rw [List.concat_eq_append] at h1 h2 ⊢
    rw [setAt_snoc]
    exact getAt_modAt_ancestor _ par root q ((List.prefix_concat_iff.1 h1).resolve_left h2)

theorem getAt_delAt_ancestor (root : Node) (p q : List Name) (h1 : q <+: p) (h2 : q ≠ p) :
    DirOrSame (root.getAt q) ((root.delAt p).getAt q) := by
  rcases List.eq_nil_or_concat p with rfl | ⟨par, n, rfl⟩
  · exact absurd (List.prefix_nil.1 h1) h2
  · rw [List.concat_eq_append] at h1 h2 ⊢
    rw [delAt_snoc]
    exact getAt_modAt_ancestor _ par root q ((List.prefix_concat_iff.1 h1).resolve_left h2)

theorem setAt_isDir (root : Node) (n : Name) (r : List Name) (v : Node) (h : root.isDir = true) :
    (root.setAt (n :: r) v).isDir = true := by
  rcases List.eq_nil_or_concat (n :: r) with h0 | ⟨par, m, h0⟩
  · cases h0
  · rw [h0, List.concat_eq_append, setAt_snoc]
    exact modAt_isDir _ par root h

theorem delAt_isDir (root : Node) (p : List Name) (h : root.isDir = true) : (root.delAt p).isDir = true := by
  rcases List.eq_nil_or_concat p with rfl | ⟨par, n, rfl⟩
  · rw [delAt_nil]; exact h
  · rw [List.concat_eq_append, delAt_snoc]
    exact modAt_isDir _ par root h

theorem getAt_setAt_child (v : Node) (n : Name) (par : List Name) (root : Node) (es : Entries)
    (h : root.getAt par = some (.dir es)) : (root.setAt (par ++ [n]) v).getAt (par ++ [n]) = some v := by
  rw [setAt_snoc, Node.getAt_append, getAt_modAt_self _ par root es h, Option.bind_some, getAt_dir_cons,
    entGet_entSet_self]
  rfl

theorem getAt_setAt_exists (root : Node) (p : List Name) (v x : Node) (h : root.getAt p = some x) :
    (root.setAt p v).getAt p = some v := by
  rcases List.eq_nil_or_concat p with rfl | ⟨par, n, rfl⟩
  · rw [setAt_nil, getAt_nil]
  · rw [List.concat_eq_append] at h ⊢
    obtain ⟨es, hes⟩ := getAt_append_dir h (List.cons_ne_nil n [])
    exact getAt_setAt_child v n par root es hes

theorem setAt_eff_or_noop (root : Node) (p : List Name) (v : Node) :
    (∀ s, (root.setAt p v).getAt (p ++ s) = v.getAt s) ∨ root.setAt p v = root := by
  rcases List.eq_nil_or_concat p with rfl | ⟨par, n, rfl⟩
  · exact .inl fun s => by rw [setAt_nil]; rfl
  · rw [List.concat_eq_append]
    by_cases hd : ∃ es, root.getAt par = some (.dir es)
    · obtain ⟨es, hes⟩ := hd
      exact .inl fun s => by rw [Node.getAt_append, getAt_setAt_child v n par root es hes]; rfl
    · exact .inr (by rw [setAt_snoc]; exact modAt_noop _ par root (fun es he => hd ⟨es, he⟩))

theorem DirOrSame.refl (a : Option Node) : DirOrSame a a := .inl rfl

theorem DirOrSame.trans {a b c : Option Node} (h1 : DirOrSame a b) (h2 : DirOrSame b c) : DirOrSame a c := by
  rcases h1 with h1 | ⟨es, es', ha, hb⟩
  · subst h1; exact h2
  · rcases h2 with h2 | ⟨es1, es2, hb', hc⟩
    · subst h2; exact .inr ⟨es, es', ha, hb⟩
    · exact .inr ⟨es, es2, ha, hc⟩

theorem DirOrSame.notLink {a b : Option Node} (h : DirOrSame a b) (ha : ∀ tg, a ≠ some (.link tg)) :
    ∀ tg, b ≠ some (.link tg) := by
  intro tg
  rcases h with h | ⟨es, es', _, hb⟩
  · subst h; exact ha tg
  · rw [hb]; intro hh; cases hh

theorem Kept.refl (a : Option Node) : Kept a a := by
  cases a with
  | none => trivial
  | some n => cases n <;> simp [Kept]

theorem Kept.trans {a b c : Option Node} (h1 : Kept a b) (h2 : Kept b c) : Kept a c := by
  cases a with
  | none => trivial
  | some n =>
    cases n with
    | dir es =>
      obtain ⟨es', h⟩ := h1
      subst h
      exact h2
    | file k => simp only [Kept] at h1; subst h1; exact h2
    | link k => simp only [Kept] at h1; subst h1; exact h2
    | special k d => simp only [Kept] at h1; subst h1; exact h2

theorem Kept.of_dirOrSame {a b : Option Node} (h : DirOrSame a b) : Kept a b := by
  cases h with
  | inl h => subst h; exact Kept.refl _
  | inr h =>
    obtain ⟨es, es', ha, hb⟩ := h
    subst ha; subst hb
    exact ⟨es', rfl⟩

theorem Preserved.refl (r : Node) : Preserved r r := fun _ => Kept.refl _

theorem Preserved.trans {a b c : Node} (h1 : Preserved a b) (h2 : Preserved b c) : Preserved a c :=
  fun q => Kept.trans (h1 q) (h2 q)

/-- inserting at a place where nothing is alters no existing entry (whatever the tree: if the parent is not a
directory `setAt` changes nothing) -/
theorem setAt_missing_preserved (root : Node) (p : List Name) (v : Node) (h : root.getAt p = none) :
    Preserved root (root.setAt p v) := by
  intro q
  rcases prefix_cases p q with ⟨s, hs⟩ | ⟨h1, h2⟩ | ⟨h1, h2⟩
  · subst hs
    rw [getAt_append_none _ _ _ h]
    trivial
  · exact Kept.of_dirOrSame (getAt_setAt_ancestor _ _ _ _ h1 h2)
  · rw [getAt_setAt_unrelated _ _ _ _ h1 h2]
    exact Kept.refl _

theorem Preserved.isDir {r r' : Node} (h : Preserved r r') (hd : r.isDir = true) : r'.isDir = true := by
  cases r <;> simp [Node.isDir] at hd
  have := h []
  simp only [getAt_nil, Kept] at this
  obtain ⟨es', he⟩ := this
  simp only [Option.some.injEq] at he
  rw [he]; rfl

mutual
/-- number of symbolic links in a tree (C13: no operation but `link` adds one) -/
def linkCount : Node → Nat
  | .link _ => 1
  | .dir es => linkCountL es
  | _ => 0
def linkCountL : List (Name × Node) → Nat
  | [] => 0
  | (_, n) :: r => linkCount n + linkCountL r
end

theorem linkCountL_entSet_le (es : Entries) (n : Name) (x : Node) :
    linkCountL (entSet es n x) ≤ linkCountL es + linkCount x := by
  induction es with
  | nil => simp [entSet, linkCountL]
  | cons e r ih =>
    obtain ⟨k, w⟩ := e
    simp only [entSet]
    split
    · simp only [linkCountL]; omega
    · simp only [linkCountL]; omega

theorem linkCountL_entSet_get (es : Entries) (n : Name) (x c : Node) (h : entGet es n = some c) :
    linkCountL (entSet es n x) + linkCount c = linkCountL es + linkCount x := by
  induction es with
  | nil => simp [entGet] at h
  | cons e r ih =>
    obtain ⟨k, w⟩ := e
    simp only [entGet] at h
    simp only [entSet]
    split
    · rename_i hk
      simp only [hk, if_true, Option.some.injEq] at h
      subst h
      simp only [linkCountL]; omega
    · rename_i hk
      simp only [hk, if_false] at h
      have := ih h
      simp only [linkCountL]; omega

theorem linkCountL_entDel_le (es : Entries) (n : Name) : linkCountL (entDel es n) ≤ linkCountL es := by
  induction es with
  | nil => simp [entDel]
  | cons e r ih =>
    obtain ⟨k, w⟩ := e
    simp only [entDel]
    split
    · simp only [linkCountL]; omega
    · simp only [linkCountL]; omega

theorem linkCount_modAt_le (g : Entries → Entries) (k : Nat) (hg : ∀ es, linkCountL (g es) ≤ linkCountL es + k)
    (par : List Name) (root : Node) : linkCount (root.modAt par g) ≤ linkCount root + k := by
  induction par generalizing root with
  | nil =>
    cases root with
    | dir es => exact hg es
    | _ => exact Nat.le_add_right _ _
  | cons a r ih =>
    cases root with
    | dir es =>
      rw [modAt_dir_cons]
      cases hc : entGet es a with
      | none => exact Nat.le_add_right _ _
      | some c =>
        have h1 := linkCountL_entSet_get es a (c.modAt r g) c hc
        have h2 := ih c
        simp only [linkCount]
        omega
    | _ => exact Nat.le_add_right _ _

theorem linkCount_setAt_le (p : List Name) (root v : Node) :
    linkCount (root.setAt p v) ≤ linkCount root + linkCount v := by
  rcases List.eq_nil_or_concat p with rfl | ⟨par, n, rfl⟩
  · rw [setAt_nil]; exact Nat.le_add_left _ _
  · rw [List.concat_eq_append, setAt_snoc]
    exact linkCount_modAt_le _ _ (fun es => linkCountL_entSet_le es n v) par root

theorem linkCount_delAt_le (p : List Name) (root : Node) : linkCount (root.delAt p) ≤ linkCount root := by
  rcases List.eq_nil_or_concat p with rfl | ⟨par, n, rfl⟩
  · rw [delAt_nil]; exact Nat.le_refl _
  · rw [List.concat_eq_append, delAt_snoc]
    exact linkCount_modAt_le _ 0 (fun es => linkCountL_entDel_le es n) par root

/-- what a path shows to the model: the kind of object and its payload; a directory shows no entry list -/
inductive ONode
  | file (c : Nat)
  | dir
  | link (t : RPath)
  | special (k : FileKind) (d : Nat)

/-- the observation of a node -/
def Node.obs : Node → ONode
  | .file c => .file c
  | .dir _ => .dir
  | .link t => .link t
  | .special k d => .special k d

/-- what the tree shows at `q`: `none` if nothing is there -/
def obsAt (r : Node) (q : List Name) : Option ONode := (r.getAt q).map Node.obs

/-- the two trees show the same at every path: equal up to the order of directory entries -/
def SameObs (r r' : Node) : Prop := ∀ q, obsAt r q = obsAt r' q

/-- no directory lists a name twice -/
def Node.WF (r : Node) : Prop := ∀ q es, r.getAt q = some (.dir es) → (es.map (·.1)).Nodup

/-- the same tree up to the order of directory entries; a partial equivalence (`FsEq f f` = well-formed) -/
def FsEq (f g : Fs) : Prop := f.cwd = g.cwd ∧ f.root.WF ∧ g.root.WF ∧ SameObs f.root g.root

theorem obs_rel {a b : Option Node} (h : a.map Node.obs = b.map Node.obs) :
    (a = none ∧ b = none) ∨ (∃ es es', a = some (.dir es) ∧ b = some (.dir es')) ∨
    (∃ n, n.isDir = false ∧ a = some n ∧ b = some n) := by
  cases a with
  | none => cases b with
    | none => exact .inl ⟨rfl, rfl⟩
    | some y => simp at h
  | some x => cases b with
    | none => simp at h
    | some y =>
      simp only [Option.map_some, Option.some.injEq] at h
      cases x <;> cases y <;> simp only [Node.obs, reduceCtorEq] at h
      · injection h with h; subst h; exact .inr (.inr ⟨_, rfl, rfl, rfl⟩)
      · exact .inr (.inl ⟨_, _, rfl, rfl⟩)
      · injection h with h; subst h; exact .inr (.inr ⟨_, rfl, rfl, rfl⟩)
      · injection h with h1 h2; subst h1; subst h2; exact .inr (.inr ⟨_, rfl, rfl, rfl⟩)

theorem SameObs.refl (r : Node) : SameObs r r := fun _ => rfl

theorem SameObs.symm {r r' : Node} (h : SameObs r r') : SameObs r' r := fun q => (h q).symm

theorem SameObs.trans {a b c : Node} (h1 : SameObs a b) (h2 : SameObs b c) : SameObs a c :=
  fun q => (h1 q).trans (h2 q)

theorem FsEq.symm {f g : Fs} (h : FsEq f g) : FsEq g f := ⟨h.1.symm, h.2.2.1, h.2.1, h.2.2.2.symm⟩

theorem FsEq.trans {f g h : Fs} (h1 : FsEq f g) (h2 : FsEq g h) : FsEq f h :=
  ⟨h1.1.trans h2.1, h1.2.1, h2.2.2.1, h1.2.2.2.trans h2.2.2.2⟩

theorem obsAt_nil (r : Node) : obsAt r [] = some r.obs := by simp [obsAt]

theorem obsAt_nondir (nd : Node) (n : Name) (q : List Name) (h : nd.isDir = false) :
    obsAt nd (n :: q) = none := by
  simp [obsAt, getAt_nondir _ _ _ h]

theorem obs_isDir {a b : Node} (h : a.obs = b.obs) : a.isDir = b.isDir := by
  cases a <;> cases b <;> simp [Node.obs] at h <;> rfl

theorem getAt_dir_of_obs {r : Node} {q : List Name} (h : obsAt r q = some .dir) :
    ∃ es, r.getAt q = some (.dir es) := by
  unfold obsAt at h
  cases hg : r.getAt q with
  | none => simp [hg] at h
  | some x => cases x <;> simp [hg, Node.obs] at h; exact ⟨_, rfl⟩

theorem obsAt_dir {r : Node} {q : List Name} {es : Entries} (h : r.getAt q = some (.dir es)) :
    obsAt r q = some .dir := by
  simp [obsAt, h, Node.obs]

theorem getAt_of_obs_leaf {r : Node} {q : List Name} {x : Node} (hx : x.isDir = false)
    (h : obsAt r q = some x.obs) : r.getAt q = some x := by
  unfold obsAt at h
  cases hg : r.getAt q with
  | none => simp [hg] at h
  | some y =>
    simp only [hg, Option.map_some, Option.some.injEq] at h
    cases x <;> cases y <;> simp [Node.obs, Node.isDir] at h hx <;> simp [h]

/-- what is not a directory is known by its observation -/
theorem getAt_leaf_iff {r : Node} {q : List Name} {x : Node} (hx : x.isDir = false) :
    r.getAt q = some x ↔ obsAt r q = some x.obs :=
  ⟨fun h => by rw [obsAt, h]; rfl, getAt_of_obs_leaf hx⟩

theorem getAt_link_iff (r : Node) (q : List Name) (tg : RPath) :
    r.getAt q = some (.link tg) ↔ obsAt r q = some (.link tg) :=
  getAt_leaf_iff (x := .link tg) rfl

theorem getAt_isSome_iff (r : Node) (q : List Name) : (r.getAt q).isSome = (obsAt r q).isSome := by
  unfold obsAt; cases r.getAt q <;> rfl

theorem obs_of_dirOrSame {a b : Option Node} (h : DirOrSame a b) : b.map Node.obs = a.map Node.obs := by
  rcases h with h | ⟨es, es', ha, hb⟩
  · rw [h]
  · rw [ha, hb]; rfl

theorem setAt_out (r : Node) (ns q : List Name) (v : Node) (h : ¬ ns <+: q) :
    obsAt (r.setAt ns v) q = obsAt r q := by
  unfold obsAt
  by_cases hq : q <+: ns
  · have hne : q ≠ ns := fun e => h (e ▸ List.prefix_refl _)
    exact obs_of_dirOrSame (getAt_setAt_ancestor r ns q v hq hne)
  · rw [getAt_setAt_unrelated r ns q v h hq]

theorem delAt_out (r : Node) (ns q : List Name) (h : ¬ ns <+: q) :
    obsAt (r.delAt ns) q = obsAt r q := by
  unfold obsAt
  by_cases hq : q <+: ns
  · have hne : q ≠ ns := fun e => h (e ▸ List.prefix_refl _)
    exact obs_of_dirOrSame (getAt_delAt_ancestor r ns q hq hne)
  · rw [getAt_delAt_unrelated r ns q h hq]

theorem obsAt_ne_none {r : Node} {q : List Name} {x : Node} (h : r.getAt q = some x) : obsAt r q ≠ none := by
  simp [obsAt, h]

theorem WF_dir (es : Entries) :
    (Node.dir es).WF ↔ (es.map (·.1)).Nodup ∧ ∀ n c, entGet es n = some c → c.WF := by
  constructor
  · intro h
    refine ⟨h [] es (by simp), ?_⟩
    intro n c hc q es' hq
    apply h (n :: q) es'
    rw [getAt_dir_cons, hc]; exact hq
  · rintro ⟨h1, h2⟩ q es' hq
    cases q with
    | nil => simp only [getAt_nil, Option.some.injEq, Node.dir.injEq] at hq; subst hq; exact h1
    | cons n q' =>
      rw [getAt_dir_cons] at hq
      cases hc : entGet es n with
      | none => simp [hc] at hq
      | some c => rw [hc] at hq; exact h2 n c hc q' es' hq

theorem WF_nondir (r : Node) (h : r.isDir = false) : r.WF := by
  intro q es hq
  cases q with
  | nil => simp only [getAt_nil, Option.some.injEq] at hq; subst hq; cases h
  | cons n q' => rw [getAt_nondir _ _ _ h] at hq; cases hq

theorem WF_emptyDir : (Node.dir []).WF := by
  rw [WF_dir]; exact ⟨List.nodup_nil, fun n c h => by simp [entGet] at h⟩

theorem WF_entSet (es : Entries) (n : Name) (x : Node) (h : (Node.dir es).WF) (hx : x.WF) :
    (Node.dir (entSet es n x)).WF := by
  rw [WF_dir] at h ⊢
  refine ⟨nodup_keys_entSet _ _ _ h.1, ?_⟩
  intro m c hc
  rw [entGet_entSet] at hc
  split at hc
  · simp only [Option.some.injEq] at hc; subst hc; exact hx
  · exact h.2 m c hc

theorem WF_entDel (es : Entries) (n : Name) (h : (Node.dir es).WF) : (Node.dir (entDel es n)).WF := by
  rw [WF_dir] at h ⊢
  refine ⟨h.1.sublist (keys_entDel_sublist es n), ?_⟩
  intro m c hc
  by_cases hnm : n = m
  · subst hnm; rw [entGet_entDel_self _ _ h.1] at hc; cases hc
  · rw [entGet_entDel_ne _ _ _ hnm] at hc; exact h.2 m c hc

theorem modAt_WF (g : Entries → Entries) (hg : ∀ es, (Node.dir es).WF → (Node.dir (g es)).WF) (par : List Name)
    (root : Node) (h : root.WF) : (root.modAt par g).WF := by
  induction par generalizing root with
  | nil =>
    cases root with
    | dir es => exact hg es h
    | _ => exact h
  | cons a r ih =>
    cases root with
    | dir es =>
      rw [modAt_dir_cons]
      cases hc : entGet es a with
      | none => exact h
      | some c => exact WF_entSet _ _ _ h (ih c (((WF_dir es).1 h).2 a c hc))
    | _ => exact h

theorem setAt_WF (v : Node) (hv : v.WF) (q : List Name) (r : Node) (h : r.WF) : (r.setAt q v).WF := by
  rcases List.eq_nil_or_concat q with rfl | ⟨par, n, rfl⟩
  · rw [setAt_nil]; exact hv
  · rw [List.concat_eq_append, setAt_snoc]
    exact modAt_WF _ (fun es hes => WF_entSet es n v hes hv) par r h

theorem delAt_WF (q : List Name) (r : Node) (h : r.WF) : (r.delAt q).WF := by
  rcases List.eq_nil_or_concat q with rfl | ⟨par, n, rfl⟩
  · rw [delAt_nil]; exact h
  · rw [List.concat_eq_append, delAt_snoc]
    exact modAt_WF _ (fun es hes => WF_entDel es n hes) par r h

/-- after `delAt` nothing is at the place (no duplicate names) -/
theorem getAt_delAt_self (q : List Name) (r : Node) (hw : r.WF) (hq : q ≠ []) : (r.delAt q).getAt q = none := by
  rcases List.eq_nil_or_concat q with rfl | ⟨par, n, rfl⟩
  · exact absurd rfl hq
  · rw [List.concat_eq_append, delAt_snoc]
    by_cases hd : ∃ es, r.getAt par = some (.dir es)
    · obtain ⟨es, hes⟩ := hd
      rw [Node.getAt_append, getAt_modAt_self _ par r es hes, Option.bind_some, getAt_dir_cons,
        entGet_entDel_self es n (hw par es hes)]
      rfl
    · rw [modAt_noop _ par r (fun es he => hd ⟨es, he⟩)]
      exact getAt_below_nondir (fun es he => hd ⟨es, he⟩) n []

theorem setAt_sameObs (v : Node) (q : List Name) (r r' : Node) (h : SameObs r r') :
    SameObs (r.setAt q v) (r'.setAt q v) := by
  intro p
  rcases List.eq_nil_or_concat q with rfl | ⟨par, n, rfl⟩
  · rw [setAt_nil, setAt_nil]
  · rw [List.concat_eq_append]
    by_cases hq : par ++ [n] <+: p
    · obtain ⟨s, rfl⟩ := hq
      -- both trees have a directory at `par`, or neither has: `v` is put in in both, or in neither
      by_cases hd : obsAt r par = some .dir
      · obtain ⟨es, hes⟩ := getAt_dir_of_obs hd
        obtain ⟨es', hes'⟩ := getAt_dir_of_obs ((h par).symm.trans hd)
        rw [obsAt, obsAt, Node.getAt_append _ (par ++ [n]) s, Node.getAt_append _ (par ++ [n]) s,
          getAt_setAt_child v n par r es hes, getAt_setAt_child v n par r' es' hes']
      · rw [setAt_snoc, setAt_snoc, modAt_noop _ par r (fun es he => hd (obsAt_dir he)),
          modAt_noop _ par r' (fun es he => hd ((h par).trans (obsAt_dir he)))]
        exact h _
    · rw [setAt_out _ _ _ _ hq, setAt_out _ _ _ _ hq]
      exact h p

theorem delAt_sameObs (q : List Name) (r r' : Node) (hw : r.WF) (hw' : r'.WF) (h : SameObs r r') :
    SameObs (r.delAt q) (r'.delAt q) := by
  intro p
  by_cases hq : q <+: p
  · obtain ⟨s, rfl⟩ := hq
    by_cases hq0 : q = []
    · subst hq0; rw [delAt_nil, delAt_nil]; exact h _
    · rw [obsAt, obsAt, getAt_append_none _ q s (getAt_delAt_self q r hw hq0),
        getAt_append_none _ q s (getAt_delAt_self q r' hw' hq0)]
  · rw [delAt_out _ _ _ hq, delAt_out _ _ _ hq]
    exact h p

/-- the place `ns` lies in an existing directory -/
def ParentDir (r : Node) (ns : List Name) : Prop := ∃ es, r.getAt ns.dropLast = some (.dir es)

/-- an object without children: what a call may write -/
def LeafLike (v : Node) : Prop := ∀ s, s ≠ [] → v.getAt s = none

theorem leafLike_nondir (v : Node) (h : v.isDir = false) : LeafLike v := by
  intro s hs
  cases s with
  | nil => exact absurd rfl hs
  | cons a s' => exact getAt_nondir _ _ _ h

theorem leafLike_emptyDir : LeafLike (.dir []) := by
  intro s hs
  cases s with
  | nil => exact absurd rfl hs
  | cons a s' => simp [getAt_dir_cons, entGet]

theorem getAt_setAt_eff (r : Node) (ns : List Name) (v : Node) (hp : ParentDir r ns) :
    (r.setAt ns v).getAt ns = some v := by
  rcases List.eq_nil_or_concat ns with rfl | ⟨par, n, rfl⟩
  · rw [setAt_nil, getAt_nil]
  · obtain ⟨es, hes⟩ := hp
    simp only [List.concat_eq_append, List.dropLast_concat] at hes ⊢
    exact getAt_setAt_child v n par r es hes

theorem parentDir_delAt (r : Node) (ns : List Name) (hp : ParentDir r ns) : ParentDir (r.delAt ns) ns := by
  by_cases hns : ns = []
  · subst hns; rw [delAt_nil]; exact hp
  obtain ⟨es, hes⟩ := hp
  have hne : ns.dropLast ≠ ns := fun h => not_prefix_dropLast hns (h.symm ▸ List.prefix_refl ns.dropLast)
  rcases getAt_delAt_ancestor r ns ns.dropLast (List.dropLast_prefix ns) hne with h | ⟨e1, e2, _, h2⟩
  · exact ⟨es, by rw [h, hes]⟩
  · exact ⟨e2, h2⟩

theorem parentDir_of_getAt (r : Node) (ns : List Name) (x : Node) (hns : ns ≠ []) (h : r.getAt ns = some x) :
    ParentDir r ns := by
  rcases List.eq_nil_or_concat ns with rfl | ⟨par, n, rfl⟩
  · exact absurd rfl hns
  · rw [List.concat_eq_append] at h
    rw [ParentDir, List.concat_eq_append, List.dropLast_concat]
    exact getAt_append_dir h (List.cons_ne_nil n [])

end Xcp
