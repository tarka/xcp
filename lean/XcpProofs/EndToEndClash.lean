import XcpProofs.EndToEnd
import XcpProofs.MultiClash
/-! # The whole program model, no compatibility assumed: validation accepts as spelled, or nothing is touched

For `L1run fs o texts` — main's up-front validation followed by the sequential run over all sources, the very function
the correspondence check compares with the real program — and the invocation `xcp -r s1 … sn DEST` (or
`-t DEST s1 … sn`): validation either accepts, returning the sources and the destination as spelled, or `L1run` reports
failure and leaves the file system untouched (`whole_invocation_rejected_or_started`).  With the theorems about
`runSources` this gives, with no compatibility assumed, C02's `whole_invocation_exit_zero_implies_the_overlay` and
`a_clash_anywhere_makes_the_whole_invocation_fail`, and C03's `whole_invocation_of_any_exit_changes_only_the_targets`
(`MultiHyp.runSources_frame`).

The frame of one source's sequential run, whatever its exit, is stated on name lists, with the walker's fixed fuel and
in any state in which the source tree is in place (`single_frame_names`): `runSources` walks each source in the state
the previous sources left. -/
namespace Xcp

open L0

theorem ite3_ok {ε α : Type} (c1 c2 c3 : Prop) [Decidable c1] [Decidable c2] [Decidable c3] (e1 e2 e3 : ε)
    (x : Except ε α) (r : α)
    (h : (if c1 then .error e1 else if c2 then .error e2 else if c3 then .error e3 else x) = .ok r) : x = .ok r := by
  by_cases h1 : c1
  · rw [if_pos h1] at h; cases h
  · rw [if_neg h1] at h
    by_cases h2 : c2
    · rw [if_pos h2] at h; cases h
    · rw [if_neg h2] at h
      by_cases h3 : c3
      · rw [if_pos h3] at h; cases h
      · rw [if_neg h3] at h; exact h

/-- if main's validation accepts an invocation without glob expansion, it returns the sources and destination as
spelled -/
theorem validate_ok_eq (fs : Fs) (o : Opts) (dest : RPath) (srcs : List RPath) (hglob : o.glob = false)
    (hpaths : (o.targetDir = none ∧ o.paths = srcs ++ [dest]) ∨ (o.targetDir = some dest ∧ o.paths = srcs))
    (r : List RPath × RPath) (h : validate fs o = .ok r) : r = (srcs, dest) := by
  have hex := expandSources_noglob fs o srcs hglob
  rw [validate_eq, argSplit_of_paths hpaths] at h
  by_cases c0 : (o.cfg.noClobber && o.force) = true
  · rw [if_pos c0] at h; cases h
  · rw [if_neg c0] at h
    simp only [validateRest, hex] at h
    have h' := ite3_ok _ _ _ _ _ _ _ _ h
    cases hcs : checkSources fs o dest srcs with
    | error e => rw [hcs] at h'; cases h'
    | ok u =>
      rw [hcs] at h'
      simp only [Except.ok.injEq] at h'
      exact h'.symm

theorem single_frame_names (g : Fs) (c : Cfg) (hd : c.dereference = false) (hn : c.noClobber = false)
    (sn par : List Name) (nm : Name) (n : Node) (pes : Entries)
    (hwf : FsEq g g) (hsn : g.root.getAt sn = some n) (hnl : n.isLink = false) (hcop : n.Copyable 63)
    (hp : g.root.getAt par = some (.dir pes))
    (hmp : Node.mappedPlain (g.root.getAt (par ++ [nm])) n = true)
    (hun1 : ¬ sn <+: par ++ [nm]) (hun2 : ¬ par ++ [nm] <+: sn)
    (hl1 : sn.length + 63 < 256) (hl2 : par.length + 1 + 63 < 256)
    (q : List Name) (hq : ¬ par ++ [nm] <+: q) :
    obsAt (execOps g c (walkEntry g c none (plainPath sn) (plainPath (par ++ [nm])) walkFuel [] [])).fs.root q =
      obsAt g.root q := by
  have hspec : OpsSpec n sn (par ++ [nm]) 63 (opsOf n sn (par ++ [nm])) :=
    ⟨mem_opsOf 63 n hcop _ _, hun1, hun2, by simp, hl1,
      by simp only [List.length_append, List.length_cons, List.length_nil]; omega⟩
  obtain ⟨hFS, hinv⟩ := opsOf_frame_setup hspec g hwf (fun rel m hg _ => by rw [Node.getAt_append, hsn]; exact hg)
    ⟨pes, by rw [List.dropLast_concat]; exact hp⟩ hmp
  rw [walkFuel_eq, walk_root g c hd sn (par ++ [nm]) (.inl hn) hcop hsn hnl hl1]
  exact (hinv.execOps hFS c).frame q hq

/-- whatever is not at or below a target is observed after `runSources` as before, whatever the exit, every existing
target being plain where its source maps onto it: a compatible
source is an exact overlay step; the first incompatible one fails, and `runSources` stops with the state that failed
run left, to which `single_frame_names` applies -/
theorem MultiHyp.runSources_frame {fs : Fs} {dest : RPath} {items : List CopySrc} {fuel : Nat}
    (H : MultiHyp fs dest items fuel) (c : Cfg) (texts : GiTexts) (hd : c.dereference = false)
    (hn : c.noClobber = false) (hg : c.gitignore = false) (hnt : c.noTargetDir = false)
    (hmp : ∀ e ∈ items, Node.mappedPlain (fs.root.getAt (dest.names ++ [e.base])) e.node = true)
    (q : List Name) (hq : ∀ e ∈ items, ¬ dest.names ++ [e.base] <+: q) :
    obsAt (runSources fs c texts (plainPath dest.names) (items.map (·.path))).fs.root q = obsAt fs.root q := by
  rw [runSources_eq_foldRun, foldRun_map]
  refine foldRun_frame (cp := id) (dn := dest.names) (Ts := items.map fun e => dest.names ++ [e.base]) items fs
    (by rw [List.map_id]; exact H.nd) (fun e he => List.mem_map_of_mem he)
    (fun e he => H.overlay_WF he _ (fun x hx => subtree_WF H.wf.2.1 hx))
    (fun e he => H.exactStep c texts hd hn hg hnt he) ?_ (Ready.init H.wf _ _) q (List.forall_mem_map.2 hq)
  intro e he g h hce
  refine ⟨H.clashStep c texts hd hn hg hnt he (hmp e he) g h hce, fun q hqe => ?_⟩
  obtain ⟨hpe, _, _, hnl, hcop, hl⟩ := H.item he
  obtain ⟨⟨es, hes⟩, hsn', hage, hrs⟩ := H.inReady c texts hg hnt he h
  have hfr := single_frame_names g c hd hn e.path.names dest.names e.base e.node es h.wf hsn' hnl hcop hes
    (by rw [hage]; exact hmp e he) (H.un e he e he).1 (H.un e he e he).2 hl H.destLen q hqe
  rw [← hpe] at hfr
  show obsAt (runSource c texts (plainPath dest.names) g e.path).fs.root q = _
  rw [hrs]
  exact hfr

/-- validation accepts (returning the command line's sources and destination), or `L1run` fails without touching
anything -/
theorem whole_invocation_rejected_or_started (fs : Fs) (o : Opts) (texts : GiTexts) (dest : RPath)
    (items : List CopySrc) (hglob : o.glob = false)
    (hpaths : (o.targetDir = none ∧ o.paths = items.map (·.path) ++ [dest]) ∨
      (o.targetDir = some dest ∧ o.paths = items.map (·.path))) :
    (validate fs o = .ok (items.map (·.path), dest) ∧
      L1run fs o texts = runSources fs o.cfg texts dest (items.map (·.path))) ∨
    L1run fs o texts = ⟨.err, fs⟩ := by
  cases hv : validate fs o with
  | error e => right; simp only [L1run, hv]
  | ok r =>
    have hr := validate_ok_eq fs o dest (items.map (·.path)) hglob hpaths r hv
    subst hr
    left
    exact ⟨rfl, by simp only [L1run, hv]⟩

end Xcp
