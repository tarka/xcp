import XcpProofs.Overlay
import XcpProofs.AnyRunFrameLemmas
import XcpProofs.CopySpec
/-! # Lemmas for `Clash`: a list of entry operations one of which meets an object it fails on

`DirectClash w m0`: the source node `m0` meets a destination object observed as `w` on which its entry operation fails.
It fails whenever the place `p` still shows `w` (`directClash_fails`), and every other operation of the list that succeeds
leaves that observation as it is (`clash_exec`): a `create_dir_all` never changes the kind of what exists, and any other
operation acts on a plain target not at or above `p` (no symbolic link is ever at or above a target: `Plains`).  So the
list fails sequentially and on every interleaving (`clash_core`).  Such a place exists when the destination is plain
where the source maps onto it (`Node.mappedPlain`) and not `Compatible` with it (`clash_position`, `tree_clash`). -/
namespace Xcp

open L0

/-- `File::create` on a directory: EISDIR -/
theorem execOp_copy_onto_dir (g : Fs) (c : Cfg) (s : RPath) (tn : List Name) (es : Entries)
    (ht : g.root.getAt tn = some (.dir es)) (hlt : tn.length < 256) :
    execOp g c (.copy s (plainPath tn)) = none := by
  have hr := resolve_of_getAt g tn true _ (le_256_of_lt hlt) ht (fun _ => rfl)
  refine Option.eq_none_iff_forall_ne_some.2 fun g' he => ?_
  obtain ⟨k, _, _, hcf⟩ := execOp_copy_some.1 he
  rcases createFile_ok hcf with ⟨q, k', hq, hg, _⟩ | ⟨q, k', d, hq, hg, _⟩ | ⟨par, n, hq, _⟩
  · rw [hr] at hq; cases hq; rw [ht] at hg; cases hg
  · rw [hr] at hq; cases hq; rw [ht] at hg; cases hg
  · rw [hr] at hq; cases hq

/-- `symlink` on anything that exists: EEXIST -/
theorem execOp_link_onto (g : Fs) (c : Cfg) (text : RPath) (tn : List Name) (x : Node)
    (ht : g.root.getAt tn = some x) (hlt : tn.length < 256) :
    execOp g c (.link text (plainPath tn)) = none := by
  have hr := resolve_of_getAt g tn false _ (le_256_of_lt hlt) ht (fun h => by cases h)
  refine Option.eq_none_iff_forall_ne_some.2 fun g' he => ?_
  have hs := execOp_link_some.1 he
  rw [symlink_eq] at hs
  obtain ⟨par, n, hq, _⟩ := make_ok hs
  rw [hr] at hq; cases hq

/-- a special file onto a directory: the `unlink` fails (EISDIR) -/
theorem execOp_special_onto_dir (g : Fs) (c : Cfg) (s : RPath) (tn : List Name) (es : Entries)
    (ht : g.root.getAt tn = some (.dir es)) (hlt : tn.length < 256) :
    execOp g c (.special s (plainPath tn)) = none := by
  have hr := resolve_of_getAt g tn false _ (le_256_of_lt hlt) ht (fun h => by cases h)
  refine Option.eq_none_iff_forall_ne_some.2 fun g' he => ?_
  obtain ⟨k, d, _, ⟨hex, _⟩ | ⟨_, _, _, g1, hun, _⟩⟩ := execOp_special_some.1 he
  · rw [Fs.exists, stat_of_getAt g tn _ (le_256_of_lt hlt) ht rfl] at hex; cases hex
  · obtain ⟨q, x, hq, hg, hx, _⟩ := unlink_ok hun
    rw [hr] at hq; cases hq; rw [ht] at hg; cases hg; cases hx

/-- `create_dir_all` on a regular file: EEXIST, and it is not a directory -/
theorem execOp_mkdir_onto_file (g : Fs) (c : Cfg) (tn : List Name) (k : Nat)
    (ht : g.root.getAt tn = some (.file k)) (hne : tn ≠ []) (hlt : tn.length < 256) :
    execOp g c (.mkdir (plainPath tn)) = none := by
  have hr := resolve_of_getAt g tn false _ (le_256_of_lt hlt) ht (fun h => by cases h)
  have hm : g.mkdir (plainPath tn) = .error .EEXIST := by rw [Fs.mkdir, hr]
  have hd : g.isDir (plainPath tn) = false := by
    rw [Fs.isDir, stat_of_getAt g tn _ (le_256_of_lt hlt) ht rfl]; rfl
  refine Option.eq_none_iff_forall_ne_some.2 fun g' he => ?_
  have hma := execOp_mkdir_some.1 he
  rcases List.eq_nil_or_concat tn with h0 | ⟨par, n, h0⟩
  · exact hne h0
  · rw [List.concat_eq_append] at h0
    rw [h0, mkdirAll_plain_snoc, ← h0, hm] at hma
    simp only [noParent, tryMk, hm, hd] at hma
    cases hma

/-- the source node `m` meets a destination object observed as `w`, and its entry operation cannot succeed -/
def DirectClash (w : ONode) (m : Node) : Prop :=
  (m.isDir = true ∧ ∃ k, w = .file k) ∨ (m.isDir = false ∧ m.isLink = false ∧ w = .dir) ∨
    (m.isLink = true ∧ (w = .dir ∨ ∃ k, w = .file k))

theorem DirectClash.kind {w : ONode} {m : Node} (h : DirectClash w m) : w = .dir ∨ ∃ k, w = .file k := by
  rcases h with ⟨_, h⟩ | ⟨_, _, h⟩ | ⟨_, h⟩
  · exact .inr h
  · exact .inl h
  · exact h

theorem directClash_fails (g : Fs) (c : Cfg) (m : Node) (sn p : List Name) (w : ONode)
    (hc : DirectClash w m) (hk : obsAt g.root p = some w) (hne : p ≠ []) (hlt : p.length < 256) :
    execOp g c (headOp m sn p) = none := by
  have hfile : ∀ k, w = .file k → g.root.getAt p = some (.file k) := by
    intro k hwk
    exact getAt_of_obs_leaf (x := .file k) rfl (by rw [hk, hwk]; rfl)
  have hdir : w = .dir → ∃ es, g.root.getAt p = some (.dir es) := by
    intro hwd
    exact getAt_dir_of_obs (by rw [hk, hwd])
  rcases hc with ⟨hmd, k, hwk⟩ | ⟨hmd, hml, hwd⟩ | ⟨hml, hw⟩
  · cases m <;> simp [Node.isDir] at hmd
    exact execOp_mkdir_onto_file g c p k (hfile k hwk) hne hlt
  · obtain ⟨es, hes⟩ := hdir hwd
    cases m with
    | dir _ => cases hmd
    | link _ => cases hml
    | file k => exact execOp_copy_onto_dir g c _ p es hes hlt
    | special k dv => exact execOp_special_onto_dir g c _ p es hes hlt
  · cases m <;> simp [Node.isLink] at hml
    rcases hw with hwd | ⟨k, hwk⟩
    · obtain ⟨es, hes⟩ := hdir hwd
      exact execOp_link_onto g c _ p _ hes hlt
    · exact execOp_link_onto g c _ p _ (hfile k hwk) hlt

theorem compatibleL_false {des : Entries} : ∀ {ses : List (Name × Node)}, compatibleL des ses = false →
    ∃ e ∈ ses, ¬ Compatible (entGet des e.1) e.2 := by
  intro ses
  induction ses with
  | nil => intro h; simp [compatibleL] at h
  | cons e r ih =>
    intro h
    obtain ⟨m, ch⟩ := e
    rw [compatibleL] at h
    by_cases hcm : Compatible (entGet des m) ch
    · have hcm' : Node.compatible (entGet des m) ch = true := hcm
      rw [hcm'] at h
      obtain ⟨e, he, hne⟩ := ih (by simpa using h)
      exact ⟨e, List.mem_cons_of_mem _ he, hne⟩
    · exact ⟨(m, ch), List.mem_cons_self, hcm⟩

theorem exists_of_not_compatible {o : Option Node} {n : Node} (h : ¬ Compatible o n) : ∃ d, o = some d := by
  cases o with
  | none => exact absurd (compatible_none n) h
  | some d => exact ⟨d, rfl⟩

theorem exists_mem_not_of_not_forall {α : Type} {l : List α} {P : α → Prop} (h : ¬ ∀ a ∈ l, P a) : ∃ a ∈ l, ¬ P a :=
  Classical.byContradiction fun hno => h fun a ha => Classical.byContradiction fun hn => hno ⟨a, ha, hn⟩

theorem ok_implies_of_cases {out : Outcome} {C : Prop} {R : Fs → Prop}
    (hC : C → ∃ fs'', out = ⟨.ok, fs''⟩ ∧ R fs'') (hN : ¬ C → out.exit = .err) {fs' : Fs} (hok : out = ⟨.ok, fs'⟩) :
    R fs' := by
  by_cases h : C
  · obtain ⟨fs'', hrun, hR⟩ := hC h
    rw [hok] at hrun
    injection hrun with _ hfs
    rw [hfs]
    exact hR
  · have hf := hN h
    rw [hok] at hf
    cases hf

theorem opsOf_sub_opsOfL {es : List (Name × Node)} {e : Name × Node} (he : e ∈ es) (sn tn : List Name) (x : Op)
    (hx : x ∈ opsOf e.2 (sn ++ [e.1]) (tn ++ [e.1])) : x ∈ opsOfL es sn tn := by
  induction es with
  | nil => cases he
  | cons e' r ih =>
    obtain ⟨m, ch⟩ := e'
    simp only [opsOfL, List.mem_append]
    cases he with
    | head => exact .inl hx
    | tail _ hm => exact .inr (ih hm)

theorem headOp_mem_opsOf_self (n : Node) (sn tn : List Name) : headOp n sn tn ∈ opsOf n sn tn := by
  cases n <;> exact List.mem_cons_self

theorem headOp_mem_opsOf : ∀ (rel : List Name) (n m : Node) (sn tn : List Name), n.getAt rel = some m →
    headOp m (sn ++ rel) (tn ++ rel) ∈ opsOf n sn tn := by
  intro rel
  induction rel with
  | nil =>
    intro n m sn tn hg
    simp only [getAt_nil, Option.some.injEq] at hg
    subst hg
    simpa using headOp_mem_opsOf_self n sn tn
  | cons a rel' ih =>
    intro n m sn tn hg
    obtain ⟨es, ch, hn, hch, hm⟩ := Node.getAt_cons_some hg
    subst hn
    have hmem : (a, ch) ∈ es := entGet_mem hch
    have := ih ch m (sn ++ [a]) (tn ++ [a]) hm
    simp only [List.append_assoc, List.singleton_append] at this
    simp only [opsOf, List.mem_cons]
    exact .inr (opsOf_sub_opsOfL hmem sn tn _ this)

theorem getAt_prefix_eq_or_dir {E : Node} {rel rel0 : List Name} {m m0 : Node} (hg : E.getAt rel = some m)
    (hg0 : E.getAt rel0 = some m0) (hp : rel <+: rel0) : (rel = rel0 ∧ m = m0) ∨ m.isDir = true := by
  obtain ⟨s, hs⟩ := hp
  by_cases hs0 : s = []
  · rw [hs0, List.append_nil] at hs
    subst hs
    rw [hg0] at hg
    exact .inl ⟨rfl, (Option.some.inj hg).symm⟩
  · rw [← hs] at hg0
    obtain ⟨es, hes⟩ := getAt_append_dir hg0 hs0
    rw [hes] at hg
    rw [← Option.some.inj hg]
    exact .inr rfl

/-- what is kept (`Preserved`) keeps being observed as a directory, or as the same regular file -/
theorem obsAt_kept {r r' : Node} (h : Preserved r r') {p : List Name} {w : ONode}
    (hw : w = .dir ∨ ∃ k, w = .file k) (hk : obsAt r p = some w) : obsAt r' p = some w := by
  have hK := h p
  rcases hw with hwd | ⟨k, hwk⟩
  · obtain ⟨es, hes⟩ := getAt_dir_of_obs (by rw [hk, hwd])
    rw [hes] at hK
    obtain ⟨es', hes'⟩ := hK
    rw [obsAt_dir hes', hwd]
  · have hf : r.getAt p = some (.file k) := getAt_of_obs_leaf (x := .file k) rfl (by rw [hk, hwk]; rfl)
    rw [hf] at hK
    have hK' : r'.getAt p = some (.file k) := hK
    rw [obsAt, hK', hwk]
    rfl

theorem clash_exec {ops : List Op} (hkeep : PairIndep ops ∨ ∀ x ∈ ops, isLinkOp x = false) (c : Cfg)
    {p : List Name} {w : ONode} {m0 : Node} (hc : DirectClash w m0) (hpne : p ≠ []) (hplt : p.length < 256)
    (hchar : ∀ x ∈ ops, ∃ t m cp, x = headOp m cp t ∧ t ≠ [] ∧ (t <+: p → (t = p ∧ m = m0) ∨ m.isDir = true))
    (g g' : Fs) (x : Op) (hx : x ∈ ops) (hwf : FsEq g g) (hpl : ∀ y ∈ ops, Plains g y)
    (hk : obsAt g.root p = some w) (he : execOp g c x = some g') :
    FsEq g' g' ∧ (∀ y ∈ ops, Plains g' y) ∧ obsAt g'.root p = some w := by
  obtain ⟨t, m, cp, ex, htne, habove⟩ := hchar x hx
  -- the root is a directory: something is below it
  have hroot : g.root.isDir = true := by
    cases hd : g.root.isDir with
    | true => rfl
    | false =>
      obtain ⟨a, q, hp⟩ := List.exists_cons_of_ne_nil hpne
      rw [hp, obsAt_nondir g.root a q hd] at hk
      cases hk
  obtain ⟨hwf', hpl', hF⟩ := exec_plain hkeep c hx (by rw [ex, headOp_target]) htne
    (by
      intro s hs
      rw [ex] at hs
      rw [(headOp_srcOf _ _ _ _ hs).1]
      exact plainPath_namesOnly _)
    hroot hwf hpl he
  refine ⟨hwf', hpl', ?_⟩
  cases hmd : m.isDir with
  | true =>
    -- `create_dir_all`: what exists keeps its kind
    obtain ⟨es, hm⟩ : ∃ es, m = .dir es := by
      cases m with
      | dir es => exact ⟨es, rfl⟩
      | file _ => cases hmd
      | link _ => cases hmd
      | special _ _ => cases hmd
    rw [ex, hm] at he
    exact obsAt_kept (mkdirAll_preserved g g' (plainPath t) (execOp_mkdir_some.1 he)) hc.kind hk
  | false =>
    -- any other operation: its target is not at or above the clashing place
    rw [← hk]
    apply hF.out p
    · intro hp
      rcases habove hp with ⟨ht, hm⟩ | hd
      · rw [ex, ht, hm, directClash_fails g c m0 cp p w hc hk hpne hplt] at he
        cases he
      · rw [hmd] at hd; cases hd
    · right
      rw [hk]
      exact fun hh => by cases hh

/-- `p` is a place where the state shows `w` (`hk`) and on which the entry operation of the source node `m0` fails
(`hc`); the list holds such an operation (`hbad`).  `hchar`: every operation of the list is an entry operation
`headOp m cp t` with a non-root target, and one whose target `t` is at or above `p` is either an entry operation of `m0`
at `p` itself or a `create_dir_all` — so no successful operation changes what `p` shows (`clash_exec`), and the
operation at `p` fails whenever it runs.  Both ways of running the list then end in failure: the sequential execution
gets to that operation or fails earlier, and a run of the concurrent model that is complete has executed it. -/
theorem clash_core {ops : List Op} (hkeep : PairIndep ops ∨ ∀ x ∈ ops, isLinkOp x = false) (c : Cfg)
    {p cp0 : List Name} {w : ONode} {m0 : Node} (hc : DirectClash w m0) (hplt : p.length < 256)
    (hchar : ∀ x ∈ ops, ∃ t m cp, x = headOp m cp t ∧ t ≠ [] ∧ (t <+: p → (t = p ∧ m = m0) ∨ m.isDir = true))
    (hbad : headOp m0 cp0 p ∈ ops)
    (fs : Fs) (hwf : FsEq fs fs) (hpl : ∀ y ∈ ops, Plains fs y) (hk : obsAt fs.root p = some w) :
    (execOps fs c ops).exit = .err ∧
    ∀ (ls : List Label) (s : St), run c (init fs ops) ls = some s → final s = true → s.failed = true := by
  have hpne : p ≠ [] := by
    obtain ⟨t, m, cp, ex, htne, _⟩ := hchar _ hbad
    have ht := congrArg opTarget ex
    rw [headOp_target, headOp_target] at ht
    rw [plainPath_inj (Option.some.inj ht)]
    exact htne
  have hexec : ∀ g g' x, x ∈ ops → (FsEq g g ∧ (∀ y ∈ ops, Plains g y) ∧ obsAt g.root p = some w) →
      execOp g c x = some g' →
      x ≠ headOp m0 cp0 p ∧ (FsEq g' g' ∧ (∀ y ∈ ops, Plains g' y) ∧ obsAt g'.root p = some w) := by
    intro g g' x hx hI he
    refine ⟨?_, clash_exec hkeep c hc hpne hplt hchar g g' x hx hI.1 hI.2.1 hI.2.2 he⟩
    intro e
    rw [e, directClash_fails g c m0 cp0 p w hc hI.2.2 hpne hplt] at he
    cases he
  exact ⟨execOps_err_of_bad c _ ops _ hexec ops fs ⟨hwf, hpl, hk⟩ (fun _ h => h) hbad,
    complete_run_failed_of_bad c _ ops _ hexec fs ⟨hwf, hpl, hk⟩ hbad⟩

mutual
/-- destination (optional), source: wherever the source maps onto the destination the destination entry is a
directory or a regular file -/
def Node.mappedPlain : Option Node → Node → Bool
  | none, _ => true
  | some (.file _), _ => true
  | some (.dir des), .dir ses => mappedPlainL des ses
  | some (.dir _), _ => true
  | _, _ => false
def mappedPlainL : Entries → List (Name × Node) → Bool
  | _, [] => true
  | des, (m, ch) :: r => Node.mappedPlain (entGet des m) ch && mappedPlainL des r
end

/-- destination, source: at every position the source tree maps onto, the destination holds a directory or a regular
file; under names the source does not list it may hold anything -/
def Node.plainWhereMapped (dst src : Node) : Bool := Node.mappedPlain (some dst) src

theorem mappedPlain_none (n : Node) : Node.mappedPlain none n = true := by
  cases n <;> rfl

theorem mappedPlain_some {y n : Node} (h : Node.mappedPlain (some y) n = true) :
    (∃ k, y = .file k) ∨ ∃ des, y = .dir des := by
  cases y with
  | file k => exact .inl ⟨k, rfl⟩
  | dir des => exact .inr ⟨des, rfl⟩
  | link t => cases n <;> cases h
  | special k d => cases n <;> cases h

theorem mappedPlainL_mem {des : Entries} {ses : List (Name × Node)} (h : mappedPlainL des ses = true) :
    ∀ e ∈ ses, Node.mappedPlain (entGet des e.1) e.2 = true := by
  induction ses with
  | nil => intro e he; cases he
  | cons kv r ih =>
    obtain ⟨k, x⟩ := kv
    simp only [mappedPlainL, Bool.and_eq_true] at h
    intro e he
    cases he with
    | head => exact h.1
    | tail _ hm => exact ih h.2 e hm

theorem mappedPlain_at : ∀ (rel : List Name) (dst : Option Node) (n m : Node),
    Node.mappedPlain dst n = true → n.getAt rel = some m →
    Node.mappedPlain (dst.bind fun x => x.getAt rel) m = true := by
  intro rel
  induction rel with
  | nil =>
    intro dst n m h hg
    simp only [getAt_nil, Option.some.injEq] at hg
    subst hg
    cases dst with
    | none => exact mappedPlain_none _
    | some x => simpa using h
  | cons a rel' ih =>
    intro dst n m h hg
    obtain ⟨es, ch, hn, hch, hm⟩ := Node.getAt_cons_some hg
    subst hn
    cases dst with
    | none => exact mappedPlain_none _
    | some x =>
      cases x with
      | dir des =>
        simp only [Node.mappedPlain] at h
        have hcc := mappedPlainL_mem h (a, ch) (entGet_mem hch)
        have := ih (entGet des a) ch m hcc hm
        simpa only [Option.bind_some, getAt_dir_cons] using this
      | file k =>
        simp only [Option.bind_some, getAt_nondir (.file k) a rel' rfl]
        exact mappedPlain_none _
      | link t => cases h
      | special k d => cases h

theorem mappedPlain_no_link {r : Node} {T : List Name} {E : Node} (h : Node.mappedPlain (r.getAt T) E = true) :
    ∀ rel m, E.getAt rel = some m → ∀ q, q <+: rel → ∀ tg, r.getAt (T ++ q) ≠ some (.link tg) := by
  intro rel m hg q hq tg he
  obtain ⟨m', hm'⟩ := getAt_prefix_some hg hq
  have := mappedPlain_at q (r.getAt T) E m' h hm'
  rw [← Node.getAt_append, he] at this
  rcases mappedPlain_some this with ⟨k, hk⟩ | ⟨des, hd⟩
  · cases hk
  · cases hd

theorem noLinkUpto_child {r : Node} {dn : List Name} {es : Entries} (b : Name) {n : Node}
    (hdd : r.getAt dn = some (.dir es)) (hmp : Node.mappedPlain (r.getAt (dn ++ [b])) n = true) :
    NoLinkUpto r (dn ++ [b]) := by
  intro p hp tg hgl
  rcases List.prefix_concat_iff.1 hp with h1 | h1
  · rw [← h1, hgl] at hmp
    rcases mappedPlain_some hmp with ⟨k, hk⟩ | ⟨des, hd⟩
    · cases hk
    · cases hd
  · exact noLinkUpto_of_getAt hdd rfl p h1 tg hgl

theorem directClash_leaf (n : Node) (hnd : n.isDir = false) (x : Node)
    (hk : (∃ k, x = .file k) ∨ ∃ des, x = .dir des)
    (hc : ¬ Compatible (some x) n) : DirectClash x.obs n := by
  cases n with
  | dir es => cases hnd
  | link t =>
    right; right
    refine ⟨rfl, ?_⟩
    rcases hk with ⟨k', rfl⟩ | ⟨des, rfl⟩
    · exact .inr ⟨k', rfl⟩
    · exact .inl rfl
  | file k =>
    rcases hk with ⟨k', rfl⟩ | ⟨des, rfl⟩
    · exact absurd (by simp [Compatible, Node.compatible]) hc
    · right; left; exact ⟨rfl, rfl, rfl⟩
  | special k dv =>
    rcases hk with ⟨k', rfl⟩ | ⟨des, rfl⟩
    · exact absurd (by simp [Compatible, Node.compatible]) hc
    · right; left; exact ⟨rfl, rfl, rfl⟩

theorem clash_position : ∀ (d : Nat) (n : Node), n.Copyable d → ∀ (x : Node),
    Node.mappedPlain (some x) n = true → ¬ Compatible (some x) n →
    ∃ rel m y, rel.length ≤ d ∧ n.getAt rel = some m ∧ x.getAt rel = some y ∧ DirectClash y.obs m := by
  refine copyable_induction ?_ ?_
  · intro n d hnd _ x hmp hc
    exact ⟨[], n, x, Nat.zero_le _, rfl, rfl, directClash_leaf n hnd x (mappedPlain_some hmp) hc⟩
  · intro es d hndp _ ih x hmp hc
    rcases mappedPlain_some hmp with ⟨k', rfl⟩ | ⟨des, rfl⟩
    · exact ⟨[], _, _, Nat.zero_le _, rfl, rfl, .inl ⟨rfl, k', rfl⟩⟩
    · have hcl : compatibleL des es = false := by
        cases hh : compatibleL des es with
        | false => rfl
        | true => exact absurd (by simpa [Compatible, Node.compatible] using hh) hc
      obtain ⟨e, he, hne⟩ := compatibleL_false hcl
      simp only [Node.mappedPlain] at hmp
      have hme := mappedPlainL_mem hmp e he
      cases hy : entGet des e.1 with
      | none => rw [hy] at hne; exact absurd (compatible_none _) hne
      | some y =>
        rw [hy] at hne hme
        obtain ⟨rel, m, z, hl, hg, hz, hdc⟩ := ih e he y hme hne
        refine ⟨e.1 :: rel, m, z, Nat.succ_le_succ hl, ?_, ?_, hdc⟩
        · rw [getAt_dir_cons, entGet_of_mem es hndp e he]; exact hg
        · rw [getAt_dir_cons, hy]; exact hz

/-- `hchar` allows for lists that also hold operations of other trees (several sources): only an operation whose target
is at or above a place below `T` need be the entry operation of a node of `E` -/
theorem tree_clash {ops : List Op} (hkeep : PairIndep ops ∨ ∀ x ∈ ops, isLinkOp x = false) (c : Cfg)
    {E : Node} {T : List Name} {d : Nat} (hcop : E.Copyable d) (hlen : T.length + d < 256)
    (hchar : ∀ x ∈ ops, ∃ t m cp, x = headOp m cp t ∧ t ≠ [] ∧
      ∀ r0, t <+: T ++ r0 → ∃ rel, t = T ++ rel ∧ E.getAt rel = some m)
    (hhas : ∀ rel m, E.getAt rel = some m → ∃ cp, headOp m cp (T ++ rel) ∈ ops)
    (fs : Fs) (hwf : FsEq fs fs) (hpl : ∀ y ∈ ops, Plains fs y)
    {x : Node} (hx : fs.root.getAt T = some x) (hmp : Node.mappedPlain (some x) E = true)
    (hclash : ¬ Compatible (some x) E) :
    (execOps fs c ops).exit = .err ∧
    ∀ (ls : List Label) (s : St), run c (init fs ops) ls = some s → final s = true → s.failed = true := by
  obtain ⟨rel0, m0, y, hl0, hg0, hy, hdc⟩ := clash_position d E hcop x hmp hclash
  obtain ⟨cp0, hbad⟩ := hhas rel0 m0 hg0
  refine clash_core hkeep c hdc
    (by rw [List.length_append]; exact Nat.lt_of_le_of_lt (Nat.add_le_add_left hl0 _) hlen) ?_ hbad fs hwf hpl ?_
  · intro op hop
    obtain ⟨t, m, cp, ex, htne, hin⟩ := hchar op hop
    refine ⟨t, m, cp, ex, htne, fun hp => ?_⟩
    obtain ⟨rel, ht, hg⟩ := hin rel0 hp
    rw [ht] at hp ⊢
    rcases getAt_prefix_eq_or_dir hg hg0 ((List.prefix_append_right_inj T).1 hp) with ⟨hr, hm⟩ | hd
    · rw [hr]; exact .inl ⟨rfl, hm⟩
    · exact .inr hd
  · show obsAt fs.root (T ++ rel0) = some y.obs
    simp [obsAt, Node.getAt_append, hx, hy]

theorem OpsSpec.treeChar {n : Node} {S T : List Name} {d : Nat} {ops : List Op} (h : OpsSpec n S T d ops) (g : Fs)
    (hS : ∀ rel m, n.getAt rel = some m → m.isDir = false → g.root.getAt (S ++ rel) = some m) :
    ∀ x ∈ ops, ∃ rel m cp, n.getAt rel = some m ∧ x = headOp m cp (T ++ rel) ∧
      (m.isDir = false → m.isLink = false → g.root.getAt cp = some m) := by
  intro x hx
  obtain ⟨rel, m, hg, _, ex⟩ := h.char x hx
  exact ⟨rel, m, S ++ rel, hg, ex, fun hmd _ => hS rel m hg hmd⟩

theorem opsOf_clash (c : Cfg) {n : Node} {S T : List Name} {d : Nat} (hcop : n.Copyable d)
    (h : OpsSpec n S T d (opsOf n S T)) (fs : Fs) (hwf : FsEq fs fs)
    (hS : ∀ rel m, n.getAt rel = some m → m.isDir = false → fs.root.getAt (S ++ rel) = some m)
    {x : Node} (hx : fs.root.getAt T = some x)
    (hmp : Node.mappedPlain (some x) n = true) (hclash : ¬ Compatible (some x) n) :
    (execOps fs c (opsOf n S T)).exit = .err ∧
    ∀ (ls : List Label) (s : St), run c (init fs (opsOf n S T)) ls = some s → final s = true → s.failed = true := by
  have hlT : NoLinkUpto fs.root T :=
    noLinkUpto_of_getAt hx (by rcases mappedPlain_some hmp with ⟨k, rfl⟩ | ⟨des, rfl⟩ <;> rfl)
  refine tree_clash (.inl h.pairIndep) c hcop h.lenT ?_ (fun rel m hg => ⟨S ++ rel, headOp_mem_opsOf rel n m S T hg⟩)
    fs hwf (plains_init fs (h.treeChar fs hS) hlT (mappedPlain_no_link (by rw [hx]; exact hmp))) hx hmp hclash
  intro op hop
  obtain ⟨rel, m, hg, _, ex⟩ := h.char op hop
  exact ⟨T ++ rel, m, S ++ rel, ex, fun h0 => h.tne (List.append_eq_nil_iff.1 h0).1, fun _ _ => ⟨rel, rfl, hg⟩⟩

theorem opsOf_frame_setup {n : Node} {S T : List Name} {d : Nat} (h : OpsSpec n S T d (opsOf n S T)) (fs : Fs)
    (hwf : FsEq fs fs)
    (hS : ∀ rel m, n.getAt rel = some m → m.isDir = false → fs.root.getAt (S ++ rel) = some m)
    (hpar : ∃ es, fs.root.getAt T.dropLast = some (.dir es))
    (hmp : Node.mappedPlain (fs.root.getAt T) n = true) :
    FrameSpec fs (opsOf n S T) (fun q => ¬ T <+: q) ∧ FsInv fs (opsOf n S T) (fun q => ¬ T <+: q) fs :=
  tree_frame_setup fs hwf (h.treeChar fs hS) (.inl h.pairIndep) h.tne hpar (mappedPlain_no_link hmp)

end Xcp
