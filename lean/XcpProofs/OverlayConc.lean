import XcpProofs.RunInv
import XcpProofs.Overlay
/-! # One source — with or without `--gitignore` patterns — onto an existing, compatible destination or a fresh one, every interleaving

The concurrent counterpart of `gitignore_overlay` / `mirror_overlay` (the walk without patterns is the walk with
none).  With patterns in force the walk emits `opsOf` of the pruned tree, the copy and special operations reading from
the places of the unpruned source tree, which hold the very same nodes (`getAt_prune_leaf`, Prune); so `CopySpec` holds of
them with the pruned tree as the tree to be laid at the single target `tb.names` (`copySpec_of_walk`).  By
`run_ok_and_refines` no reachable state of the concurrent model L0 is failed and every complete run ends with the
destination overlaid with the pruned tree, up to the order of directory entries (`overlay_concurrent_ok`).  An absent
target is the case `Compatible none _`.

The destination may contain symbolic links under names the source does not list: they are never at or above the
target of an operation (`CopyInv.noLinkAbove`, RunInv: every position above a target is a position of a source directory, and
`Compatible` allows only a directory or nothing there). -/
namespace Xcp

open L0

/-- the operations of a fresh-destination copy -/
abbrev freshOps (fs : Fs) (c : Cfg) (src tb : RPath) (fuel : Nat) : List Op := walkEntry fs c none src tb (fuel + 1) [] []

/-- `hn`: with `noClobber` the walk is `opsOf` of the pruned tree only if the probe never fires, which an absent target
guarantees.  The hypotheses are those of `CopySetup` without `wf`, which `gitignore_fresh_never_fails` does not have -/
theorem copySpec_of_walk (fs : Fs) (c : Cfg) (hd : c.dereference = false) (ps : List Gi.Pattern)
    (src tb : RPath) (srcNode : Node) (fuel : Nat)
    (hsrc : PlainTarget fs src) (hsn : fs.root.getAt src.names = some srcNode)
    (hcop : srcNode.Copyable fuel)
    (htb : PlainTarget fs tb) (hne : tb.names ≠ [])
    (hn : c.noClobber = false ∨ fs.root.getAt tb.names = none)
    (hpar : ∃ es, fs.root.getAt tb.names.dropLast = some (.dir es))
    (hun : Unrel src.names tb.names)
    (hlen : src.names.length + fuel < 256 ∧ tb.names.length + fuel < 256) :
    walkEntry fs c (some ps) src tb (fuel + 1) [] [] = opsOf (Node.prune ps [] srcNode) src.names tb.names ∧
    CopySpec fs [⟨tb.names, Node.prune ps [] srcNode⟩] fuel (opsOf (Node.prune ps [] srcNode) src.names tb.names) ∧
    TodoOK (DirsOf fs) (opsOf (Node.prune ps [] srcNode) src.names tb.names) := by
  have hshape := walk_root_gi fs c ps hd src.names tb.names
    (hn.imp_right fun habs => absent_below fs tb.names habs hpar) hcop hsn (hsrc.not_link hsn) hlen.1
  rw [← plainTarget_eq fs src hsrc, ← plainTarget_eq fs tb htb] at hshape
  obtain ⟨hspec, htodo⟩ := copySpec_opsOf hsn (copyable_prune ps fuel srcNode hcop [])
    (fun rel m hg hmd _ => getAt_prune_leaf ps rel srcNode [] m (copyable_WF _ _ hcop) hg hmd) hun hne hlen.1 hlen.2 hpar
  exact ⟨hshape, hspec, htodo⟩

/-- no interleaving can make an operation of a copy onto a compatible destination fail —
no reachable state of the concurrent model is failed —, and every complete run ends with the destination overlaid
with the pruned source tree (up to the order of directory entries) -/
theorem overlay_concurrent_ok {fs : Fs} {src tb : RPath} {srcNode : Node} {fuel : Nat}
    (H : CopySetup fs src tb srcNode fuel) (c : Cfg) (hd : c.dereference = false)
    (hn : c.noClobber = false ∨ fs.root.getAt tb.names = none)
    (ps : List Gi.Pattern) (hcompat : Compatible (fs.root.getAt tb.names) (Node.prune ps [] srcNode))
    (ls : List Label) (st : St)
    (hrun : run c (init fs (walkEntry fs c (some ps) src tb (fuel + 1) [] [])) ls = some st) :
    st.failed = false ∧
    (final st = true → FsEq st.fs { fs with
      root := fs.root.setAt tb.names (Node.overlay (fs.root.getAt tb.names) (Node.prune ps [] srcNode)) }) := by
  have hex := overlay_exact H c hd hn ps hcompat
  obtain ⟨hshape, hspec, htodo⟩ := copySpec_of_walk fs c hd ps src tb srcNode fuel H.srcPlain H.node H.cop H.tbPlain H.ne
    hn H.par H.un H.len
  rw [hshape] at hrun hex
  have h := run_ok_and_refines hspec (List.forall_mem_singleton.2 (head0_of_compatible hcompat)) c H.wf
    (hn.imp_right List.forall_mem_singleton.2) (List.forall_mem_singleton.2 H.par) htodo hex ls st hrun
  exact ⟨h.1, fun hfin => (h.2 hfin).trans
    (fsEq_placeAt H.wf.2.1 H.par _ (execOps_wf c _ fs _ H.wf hex).2.1)⟩

/-- no operation of a run with `--gitignore` onto a fresh target fails, with or without `--no-clobber` -/
theorem gitignore_fresh_never_fails (fs : Fs) (c : Cfg) (hd : c.dereference = false) (ps : List Gi.Pattern)
    (src tb : RPath) (srcNode : Node) (fuel : Nat)
    (hsrc : PlainTarget fs src) (hsn : fs.root.getAt src.names = some srcNode)
    (hcop : srcNode.Copyable fuel)
    (htb : PlainTarget fs tb) (hne : tb.names ≠ []) (habs : fs.root.getAt tb.names = none)
    (hpar : ∃ es, fs.root.getAt tb.names.dropLast = some (.dir es))
    (hun1 : ¬ src.names <+: tb.names) (hun2 : ¬ tb.names <+: src.names)
    (hlen : src.names.length + fuel < 200 ∧ tb.names.length + fuel < 200)
    (ls : List Label) (st : St)
    (hrun : run c (init fs (walkEntry fs c (some ps) src tb (fuel + 1) [] [])) ls = some st) :
    st.failed = false := by
  obtain ⟨hshape, hspec, htodo⟩ := copySpec_of_walk fs c hd ps src tb srcNode fuel hsrc hsn hcop htb hne (.inr habs)
    hpar ⟨hun1, hun2⟩ ⟨Nat.lt_trans hlen.1 (by decide), Nat.lt_trans hlen.2 (by decide)⟩
  rw [hshape] at hrun
  exact (CopyInv.run hspec (List.forall_mem_singleton.2 (head0_of_absent habs)) c
    (.inr (List.forall_mem_singleton.2 habs)) ls _ st (CopyInv.init (List.forall_mem_singleton.2 hpar) htodo) hrun).ok

end Xcp
