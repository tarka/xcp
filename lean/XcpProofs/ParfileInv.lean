import XcpModel.ParfilePool
import XcpProofs.ListAux
import XcpProofs.Lts
import XcpProofs.PoolLog
/-! Invariants of the parfile worker model (`XcpModel.ParfilePool`) for every reachable state (every schedule): a
handle is held by at most one worker, handles ≥ `next` by none, a finalised handle by none (`HInv`, C18's monitor);
the worker list keeps its length (C20); the log is a `DriverLog` (`XcpProofs/PoolLog.lean`); files left =
`files.drop next` and a handle below `next` is held or closed (`PInv`, completeness). -/
namespace Xcp.Parfile

open Xcp.Pool (Hid Event writesBeforeFinalise dropLog finHid wrHid DriverLog)

theorem step_take {s s' : St} {i : Nat} (h : step s (.take i) = some s') :
    ∃ b q, s.workers[i]? = some none ∧ s.queue = b :: q ∧
      s' = { s with queue := q, workers := s.workers.set i (some (s.next, 0, b)), next := s.next + 1,
                    log := s.log ++ [.opened s.next] } := by
  simp only [step] at h
  split at h
  · next b q hw hq => exact ⟨b, q, hw, hq, by simpa using h.symm⟩
  · simp at h

theorem step_write {s s' : St} {i : Nat} (h : step s (.write i) = some s') :
    ∃ hd k left, s.workers[i]? = some (some (hd, k, left+1)) ∧
      s' = { s with workers := s.workers.set i (some (hd, k+1, left)), log := s.log ++ [.write hd k] } := by
  simp only [step] at h
  split at h
  · next hd k left hw => exact ⟨hd, k, left, hw, by simpa using h.symm⟩
  · simp at h

theorem step_finish {s s' : St} {i : Nat} (h : step s (.finish i) = some s') :
    ∃ hd k, s.workers[i]? = some (some (hd, k, 0)) ∧
      s' = { s with workers := s.workers.set i none, log := s.log ++ dropLog s.fsyncOn hd } := by
  simp only [step] at h
  split at h
  · next hd k hw => exact ⟨hd, k, hw, by simpa [dropLog] using h.symm⟩
  · simp at h

/-- steps still to be taken: a queued file of `b` data calls needs 1 take + b writes + 1 finish -/
def measure (s : St) : Nat :=
  (s.queue.map fun b => b + 2).sum
  + (s.workers.map fun w => match w with | some (_, _, left) => left + 1 | none => 0).sum

/-- the moves a worker still makes on the file it holds: the data calls left and the finish -/
def workerCost (w : Option (Hid × Nat × Nat)) : Nat :=
  match w with | some (_, _, left) => left + 1 | none => 0

theorem measure_eq (s : St) : measure s = (s.queue.map fun b => b + 2).sum + (s.workers.map workerCost).sum := rfl

theorem step_measure_exact (s s' : St) (l : Label) (h : step s l = some s') : measure s' + 1 = measure s := by
  cases l with
  | take i =>
    obtain ⟨b, q, hw, hq, rfl⟩ := step_take h
    have := sum_map_set workerCost (some (s.next, 0, b)) _ _ _ hw
    simp only [workerCost] at this
    simp only [measure_eq, hq, List.map_cons, List.sum_cons]
    omega
  | write i =>
    obtain ⟨hd, k, left, hw, rfl⟩ := step_write h
    have := sum_map_set workerCost (some (hd, k+1, left)) _ _ _ hw
    simp only [workerCost] at this
    simp only [measure_eq]
    omega
  | finish i =>
    obtain ⟨hd, k, hw, rfl⟩ := step_finish h
    have := sum_map_set workerCost none _ _ _ hw
    simp only [workerCost] at this
    simp only [measure_eq]
    omega

theorem run_cons (s : St) (l : Label) (ls : List Label) : run s (l :: ls) = (step s l).bind (run · ls) := by
  simp only [run]
  cases step s l <;> rfl

/-- every schedule terminates, after exactly `measure init` steps -/
theorem run_measure (s s' : St) (ls : List Label) (h : run s ls = some s') : measure s' + ls.length = measure s :=
  Lts.run_len_eq (fun _ => rfl) run_cons measure step_measure_exact ls s s' h

theorem mem_candidates (s : St) (l : Label) (i : Nat) (hi : i < s.workers.length)
    (hl : l = .take i ∨ l = .write i ∨ l = .finish i) : l ∈ candidates s := by
  simp only [candidates, List.mem_flatMap, List.mem_range]
  exact ⟨i, hi, by rcases hl with rfl | rfl | rfl <;> simp⟩

/-- no deadlock: in a non-final state some label is enabled (a busy worker can always move; if all are idle the
queue is not empty and any worker can take) -/
theorem no_deadlock (s : St) (hw : 0 < s.workers.length) (hf : final s = false) : enabled s ≠ [] := by
  suffices ∃ l, l ∈ candidates s ∧ (step s l).isSome by
    obtain ⟨l, hl, hs⟩ := this
    exact List.ne_nil_of_mem (List.mem_filter.mpr ⟨hl, hs⟩)
  by_cases hall : s.workers.all (·.isNone) = true
  · cases hq : s.queue with
    | nil => simp [final, hq, hall] at hf
    | cons b q =>
      refine ⟨.take 0, mem_candidates s _ 0 hw (.inl rfl), ?_⟩
      have h0 : s.workers[0]? = some none := by
        rw [List.all_eq_true] at hall
        have hm : s.workers[0] ∈ s.workers := List.getElem_mem hw
        have := hall _ hm
        rw [List.getElem?_eq_getElem hw]
        cases hx : s.workers[0] with
        | none => rfl
        | some v => rw [hx] at this; simp at this
      simp [step, h0, hq]
  · have : ∃ w ∈ s.workers, w.isNone = false := by
      rw [Bool.not_eq_true, List.all_eq_false] at hall
      obtain ⟨w, hm, hw⟩ := hall; exact ⟨w, hm, by cases w <;> simp_all⟩
    obtain ⟨w, hm, hwn⟩ := this
    obtain ⟨i, hi, rfl⟩ := List.getElem_of_mem hm
    have hi? : s.workers[i]? = some s.workers[i] := List.getElem?_eq_getElem hi
    cases hx : s.workers[i] with
    | none => rw [hx] at hwn; simp at hwn
    | some v =>
      obtain ⟨hd, k, left⟩ := v
      rw [hx] at hi?
      cases left with
      | zero => exact ⟨.finish i, mem_candidates s _ i hi (.inr (.inr rfl)), by simp [step, hi?]⟩
      | succ n => exact ⟨.write i, mem_candidates s _ i hi (.inr (.inl rfl)), by simp [step, hi?]⟩

theorem params_reachable {files : List Nat} {n : Nat} {fs : Bool} {s : St} (h : Reachable files n fs s) :
    s.workers.length = n ∧ s.fsyncOn = fs := by
  refine Lts.reach_ind (fun _ => rfl) run_cons (fun s => s.workers.length = n ∧ s.fsyncOn = fs) (by simp [init]) ?_ h
  intro s l s' inv hs
  cases l with
  | take i => obtain ⟨b, q, hw, hq, rfl⟩ := step_take hs; simpa using inv
  | write i => obtain ⟨hd, k, left, hw, rfl⟩ := step_write hs; simpa using inv
  | finish i => obtain ⟨hd, k, hw, rfl⟩ := step_finish hs; simpa using inv

/-- the number of open handles never exceeds the number of workers — independent of the number of files -/
theorem open_bound (files : List Nat) (n : Nat) (fs : Bool) (s : St) (h : Reachable files n fs s) :
    openCount s ≤ n :=
  (params_reachable h).1 ▸ List.countP_le_length

/-- worker `w` has handle `h` open -/
def holds (h : Hid) (w : Option (Hid × Nat × Nat)) : Bool :=
  match w with
  | some (h', _, _) => h = h'
  | none => false

/-- number of workers holding handle `h` -/
def occ (ws : List (Option (Hid × Nat × Nat))) (h : Hid) : Nat := ws.countP (holds h)

theorem occ_set_take (l : List (Option (Hid × Nat × Nat))) (i : Nat) (h : Hid) (k left : Nat) (x : Hid)
    (hw : l[i]? = some none) :
    occ (l.set i (some (h, k, left))) x = occ l x + (if x = h then 1 else 0) := by
  have := countP_set_add (holds x) (some (h, k, left)) _ _ _ hw
  simpa only [occ, holds, decide_eq_true_eq, Bool.false_eq_true, ↓reduceIte, Nat.add_zero] using this

theorem occ_set_write (l : List (Option (Hid × Nat × Nat))) (i : Nat) (h : Hid) (k left k' left' : Nat) (x : Hid)
    (hw : l[i]? = some (some (h, k, left))) :
    occ (l.set i (some (h, k', left'))) x = occ l x :=
  Nat.add_right_cancel (countP_set_add (holds x) (some (h, k', left')) (some (h, k, left)) l i hw)

theorem occ_set_finish (l : List (Option (Hid × Nat × Nat))) (i : Nat) (h : Hid) (k left : Nat) (x : Hid)
    (hw : l[i]? = some (some (h, k, left))) :
    occ (l.set i none) x + (if x = h then 1 else 0) = occ l x := by
  have := countP_set_add (holds x) none _ _ _ hw
  simpa only [occ, holds, decide_eq_true_eq, Bool.false_eq_true, ↓reduceIte, Nat.add_zero] using this

/-- a handle is held by at most one worker, a handle not yet given out by none, and a finalised handle by none while
the log satisfies the monitor -/
structure HInv (s : St) : Prop where
  uniq  : ∀ h, occ s.workers h ≤ 1
  fresh : ∀ h, s.next ≤ h → occ s.workers h = 0
  dead  : Dead finHid wrHid (occ s.workers) s.next s.log

theorem hinv_init (files : List Nat) (n : Nat) (fs : Bool) : HInv (init files n fs) := by
  have : ∀ h, (List.replicate n (none : Option (Hid × Nat × Nat))).countP (holds h) = 0 := by
    intro h; rw [List.countP_eq_zero]; intro a ha; rw [List.mem_replicate] at ha; simp [ha.2, holds]
  exact ⟨fun h => by simp [init, occ, this], fun h _ => by simp [init, occ, this], by simp [init], trivial⟩

theorem worker_occ_pos {s : St} {i : Nat} {hd : Hid} {k left : Nat} (hw : s.workers[i]? = some (some (hd, k, left))) :
    0 < occ s.workers hd :=
  List.countP_pos_iff.mpr ⟨_, List.mem_of_getElem? hw, by simp [holds]⟩

/-- `write` needs its handle to be held, so no finalisation of it precedes; `finish` finalises the handle of the one
worker that held it (`uniq`), so nobody holds it afterwards -/
theorem hinv_step {s s' : St} (l : Label) (inv : HInv s) (h : step s l = some s') : HInv s' := by
  cases l with
  | take i =>
    obtain ⟨b, q, hw, hq, rfl⟩ := step_take h
    have hocc := fun x => occ_set_take s.workers i s.next 0 b x hw
    have h0 := inv.fresh s.next (Nat.le_refl _)
    refine ⟨fun x => ?_, fun x hx => ?_, inv.dead.append_nw [.opened s.next] (by simp [wrHid]) (by simp [finHid])
      fun x hx hl => ⟨?_, Nat.lt_succ_of_lt hl⟩⟩
    · have := inv.uniq x
      rw [hocc]
      split
      · next e => rw [e, h0]; exact Nat.le_refl 1
      · exact this
    · have hx' : s.next < x := hx
      have := inv.fresh x (Nat.le_of_lt hx')
      have e : x ≠ s.next := Nat.ne_of_gt hx'
      rw [hocc, if_neg e]
      exact this
    · have e : x ≠ s.next := Nat.ne_of_lt hl
      rw [hocc, if_neg e]
      exact hx
  | write i =>
    obtain ⟨hd, k, left, hw, rfl⟩ := step_write h
    have hocc := fun x => occ_set_write s.workers i hd k (left+1) (k+1) left x hw
    refine ⟨fun x => (hocc x).symm ▸ inv.uniq x, fun x hx => (hocc x).trans (inv.fresh x hx),
      inv.dead.append [.write hd k] (mon_singleton _) ?_ (by simp [finHid]) fun x hx hl => ⟨(hocc x).trans hx, hl⟩⟩
    intro w hm x hx
    cases List.mem_singleton.mp hm
    cases hx
    exact worker_occ_pos hw
  | finish i =>
    obtain ⟨hd, k, hw, rfl⟩ := step_finish h
    have hocc := fun x => occ_set_finish s.workers i hd k 0 x hw
    have hp := worker_occ_pos hw
    have hlt : hd < s.next := Nat.lt_of_not_le fun hle => Nat.ne_of_gt hp (inv.fresh hd hle)
    refine ⟨fun x => Nat.le_trans (Nat.le.intro (hocc x)) (inv.uniq x),
      fun x hx => Nat.eq_zero_of_add_eq_zero_right ((hocc x).trans (inv.fresh x hx)),
      inv.dead.append_nw _ (fun _ => Pool.wrHid_dropLog) (fun e he x hf => ?_)
      fun x hx hl => ⟨Nat.eq_zero_of_add_eq_zero_right ((hocc x).trans hx), hl⟩⟩
    cases Pool.finHid_dropLog he hf
    have h1 := hocc hd; have := inv.uniq hd
    rw [if_pos rfl] at h1
    exact ⟨Nat.le_zero.mp (Nat.le_of_succ_le_succ (Nat.le_trans (Nat.le_of_eq h1) this)), hlt⟩

theorem hinv_reachable {files : List Nat} {n : Nat} {fs : Bool} {s : St} (h : Reachable files n fs s) : HInv s :=
  Lts.reach_ind (fun _ => rfl) run_cons HInv (hinv_init files n fs) (fun _ l _ inv hs => hinv_step l inv hs) h

/-- in every reachable log no write of a handle follows its finalisation or its fsync -/
theorem writes_before_finalise (files : List Nat) (n : Nat) (fs : Bool) (s : St)
    (h : Reachable files n fs s) : writesBeforeFinalise s.log = true :=
  (Pool.wbf_iff s.log).mpr (hinv_reachable h).dead.mon

theorem driverLog_reachable {files : List Nat} {n : Nat} {fs : Bool} {s : St} (h : Reachable files n fs s) :
    DriverLog fs s.log := by
  refine (Lts.reach_ind (fun _ => rfl) run_cons (fun s => s.fsyncOn = fs ∧ DriverLog fs s.log) ⟨rfl, .nil⟩ ?_ h).2
  rintro s l s' ⟨hfs, hl⟩ hs
  cases l with
  | take i => obtain ⟨b, q, hw, hq, rfl⟩ := step_take hs; exact ⟨hfs, hl.plain rfl⟩
  | write i => obtain ⟨x, k, left, hw, rfl⟩ := step_write hs; exact ⟨hfs, hl.plain rfl⟩
  | finish i => obtain ⟨x, k, hw, rfl⟩ := step_finish hs; exact ⟨hfs, hfs ▸ hl.drop x⟩

/-- completeness: the files left are those from `next` on, and a handle given out is held by a worker or closed -/
structure PInv (files0 : List Nat) (s : St) : Prop where
  queue_eq  : s.queue = files0.drop s.next
  next_le   : s.next ≤ files0.length
  closed_or : ∀ h, h < s.next → 0 < occ s.workers h ∨ .closed h ∈ s.log

theorem pinv_step {files0 : List Nat} {s s' : St} (l : Label) (inv : PInv files0 s) (h : step s l = some s') :
    PInv files0 s' := by
  cases l with
  | take i =>
    obtain ⟨b, q, hw, hq, rfl⟩ := step_take h
    obtain ⟨hlt, _, hq'⟩ := drop_eq_cons (inv.queue_eq.symm.trans hq)
    refine ⟨hq', hlt, ?_⟩
    intro x hx
    have hc := occ_set_take s.workers i s.next 0 b x hw
    rw [hc]
    by_cases e : x = s.next
    · exact .inl (by rw [if_pos e]; exact Nat.succ_pos _)
    · exact (inv.closed_or x (Nat.lt_of_le_of_ne (Nat.le_of_lt_succ hx) e)).imp
        (fun h1 => Nat.lt_of_lt_of_le h1 (Nat.le_add_right _ _)) (List.mem_append_left _)
  | write i =>
    obtain ⟨hd, k, left, hw, rfl⟩ := step_write h
    refine ⟨inv.queue_eq, inv.next_le, ?_⟩
    intro x hx
    have hc := occ_set_write s.workers i hd k (left+1) (k+1) left x hw
    rw [hc]
    exact (inv.closed_or x hx).imp_right (List.mem_append_left _)
  | finish i =>
    obtain ⟨hd, k, hw, rfl⟩ := step_finish h
    refine ⟨inv.queue_eq, inv.next_le, ?_⟩
    intro x hx
    have hc := occ_set_finish s.workers i hd k 0 x hw
    by_cases e : x = hd
    · exact .inr (List.mem_append_right _ (Pool.mem_dropLog.mpr (.inr (.inr (e ▸ rfl)))))
    · rw [if_neg e] at hc
      exact (inv.closed_or x hx).imp (fun h1 => Nat.lt_of_lt_of_eq h1 hc.symm) (List.mem_append_left _)

/-- completeness: in a final reachable state every file given was taken from the queue and its handle closed -/
theorem final_all_closed (files : List Nat) (n : Nat) (fs : Bool) (s : St)
    (h : Reachable files n fs s) (hf : final s = true) :
    s.next = files.length ∧ ∀ hd, hd < files.length → .closed hd ∈ s.log := by
  have inv : PInv files s := Lts.reach_ind (fun _ => rfl) run_cons (PInv files)
    ⟨by simp [init], by simp [init], by intro h hl; simp [init] at hl⟩ (fun _ l _ inv hs => pinv_step l inv hs) h
  simp only [final, Bool.and_eq_true, List.isEmpty_iff, List.all_eq_true] at hf
  obtain ⟨hq, hall⟩ := hf
  have hnext : s.next = files.length := by
    have h1 := inv.queue_eq
    rw [hq] at h1
    exact Nat.le_antisymm inv.next_le (List.drop_eq_nil_iff.mp h1.symm)
  refine ⟨hnext, ?_⟩
  intro hd hlt
  rcases inv.closed_or hd (by rw [hnext]; exact hlt) with h1 | h1
  · exfalso
    obtain ⟨w, hm, hh⟩ := List.countP_pos_iff.mp h1
    have := hall w hm
    cases w with
    | none => simp [holds] at hh
    | some v => simp at this
  · exact h1

end Xcp.Parfile
