import XcpProofs.MultiConc
/-! # `--no-clobber`, several sources, some target exists: nothing is altered, and the run fails

The second clause of C08 for several sources: `xcp -r --no-clobber s1 … sn DEST/` with `DEST` an existing directory,
where `DEST/basename(si)` may or may not exist (any kind of entry: a file, a directory, a special file, a live or
dangling symbolic link — the walker's probe is `lexists`; below the plain directory `DEST` this is "the place
`DEST/base` holds something", `lexists_child_iff`).  `multi_noclobber_any_interleaving` (MultiConc) covers the case in
which every target is absent.

In every reachable state of the concurrent model over the operations of all sources, every entry that existed initially
is kept, and the target of every queued operation and of the operation the walker reaches next does not exist at that
moment (`multi_collision_preserves`); if some target exists, every complete run is failed and the sequential run exits
non-zero (from `multi_collision_core`).

How the model represents "the walker stops": `multiOps` concatenates the per-source lists of `walkEntry`, each
computed against the initial file system.  Under no-clobber a source whose target `DEST/base` exists (`lexists`: a
file, a directory, a special file, a live or dangling symbolic link) contributes exactly `[.fail]`
(`walkEntry_collision`); the lists of later sources are still appended, but `.fail` is executed by the walker itself
(`isSync`), and `L0.step` then empties `todo` and marks the run failed — nothing after the marker is ever reached.
(`execOps` likewise stops at the marker.)  So with `items = pre ++ e0 :: post`, `e0` the first source whose target
exists, the list is `allOps dn pre ++ .fail :: R`, and every run over it is a run over `allOps dn pre` — the
all-targets-absent case (`multi_noclobber_any_interleaving`) — until the walker reaches the marker, and a run over
`allOps dn pre` whose walker has finished, afterwards (`cut_run`).

`multiOps` evaluates every source's probe against the initial file system whereas the real walker probes when it gets
to the source.  This makes no difference here: the sources before the first collision write below their own targets
`DEST/base` only, and base names are distinct (`MultiHyp.nd`), sources and targets unrelated (`MultiHyp.un`), so what
is at
`DEST/base(e0)` when the walker gets to `e0` is what was there initially. -/
namespace Xcp

open L0

/-- `s` is a state of the run over `A ++ .fail :: R`, `s'` one of the run over `A`: before the walker has reached the
marker they differ in the tail of `todo` only; afterwards the walker of `s'` has finished, `s` is failed -/
inductive CutRel (R : List Op) (s s' : St) : Prop
  | before : s.fs = s'.fs → s.queue = s'.queue → s.failed = s'.failed → s.todo = s'.todo ++ .fail :: R →
      CutRel R s s'
  | after : s.fs = s'.fs → s.queue = s'.queue → s.todo = [] → s.failed = true → s'.todo = [] → CutRel R s s'

theorem cut_step (c : Cfg) (R : List Op) (s s' s1 : St) (l : Label) (h : CutRel R s s')
    (hstep : step c s l = some s1) : (∃ s1', step c s' l = some s1' ∧ CutRel R s1 s1') ∨ CutRel R s1 s' := by
  obtain ⟨fs, todo, queue, failed⟩ := s
  obtain ⟨fs', todo', queue', failed'⟩ := s'
  -- `s'` makes the same step, except when the walker of `s` executes the marker: then `s'` stays and the relation
  -- passes from `before` to `after`; afterwards only workers step, in both
  cases h with
  | before h1 h2 h3 h4 =>
    simp only at h1 h2 h3 h4
    subst h1; subst h2; subst h3; subst h4
    cases l with
    | walk =>
      cases failed with
      | true => simp [step] at hstep
      | false =>
        cases todo' with
        | nil =>
          right
          simp only [step, List.nil_append, isSync, execOp, Bool.false_eq_true, if_false, if_true] at hstep
          cases hstep
          exact .after rfl rfl rfl rfl rfl
        | cons op r =>
          left
          simp only [step, List.cons_append, Bool.false_eq_true, if_false] at hstep ⊢
          cases hs : isSync op with
          | true =>
            simp only [hs, if_true] at hstep ⊢
            cases hx : execOp fs c op with
            | none =>
              simp only [hx] at hstep ⊢
              cases hstep
              exact ⟨_, rfl, .after rfl rfl rfl rfl rfl⟩
            | some g =>
              simp only [hx] at hstep ⊢
              cases hstep
              exact ⟨_, rfl, .before rfl rfl rfl rfl⟩
          | false =>
            simp only [hs, Bool.false_eq_true, if_false] at hstep ⊢
            cases hstep
            exact ⟨_, rfl, .before rfl rfl rfl rfl⟩
    | exec i =>
      left
      simp only [step] at hstep ⊢
      cases hq : queue[i]? with
      | none => simp [hq] at hstep
      | some a =>
        simp only [hq] at hstep ⊢
        cases hx : execOp fs c a with
        | none =>
          simp only [hx] at hstep ⊢
          cases hstep
          exact ⟨_, rfl, .before rfl rfl rfl rfl⟩
        | some g =>
          simp only [hx] at hstep ⊢
          cases hstep
          exact ⟨_, rfl, .before rfl rfl rfl rfl⟩
  | after h1 h2 h3 h4 h5 =>
    simp only at h1 h2 h3 h4 h5
    subst h1; subst h2; subst h3; subst h4; subst h5
    cases l with
    | walk => simp [step] at hstep
    | exec i =>
      left
      simp only [step] at hstep ⊢
      cases hq : queue[i]? with
      | none => simp [hq] at hstep
      | some a =>
        simp only [hq] at hstep ⊢
        cases hx : execOp fs c a with
        | none =>
          simp only [hx] at hstep ⊢
          cases hstep
          exact ⟨_, rfl, .after rfl rfl rfl rfl rfl⟩
        | some g =>
          simp only [hx] at hstep ⊢
          cases hstep
          exact ⟨_, rfl, .after rfl rfl rfl rfl rfl⟩

theorem cut_run (c : Cfg) (R : List Op) : ∀ (ls : List Label) (s0 s0' s : St), CutRel R s0 s0' →
    run c s0 ls = some s → ∃ ls' s', run c s0' ls' = some s' ∧ CutRel R s s' := by
  intro ls
  induction ls with
  | nil => intro s0 s0' s h hr; cases hr; exact ⟨[], s0', rfl, h⟩
  | cons l ls ih =>
    intro s0 s0' s h hr
    simp only [run] at hr
    split at hr
    · next s1 hs1 =>
      rcases cut_step c R s0 s0' s1 l h hs1 with ⟨s1', hs1', h'⟩ | h'
      · obtain ⟨ls', s', hr', hrel⟩ := ih s1 s1' s h' hr
        exact ⟨l :: ls', s', by simp only [run, hs1']; exact hr', hrel⟩
      · exact ih s1 s0' s h' hr
    · cases hr

theorem cut_init (fs : Fs) (A R : List Op) : CutRel R (init fs (A ++ .fail :: R)) (init fs A) :=
  .before rfl rfl rfl rfl

theorem walkEntry_collision (fs : Fs) (c : Cfg) (hd : c.dereference = false) (hn : c.noClobber = true)
    (src tb : RPath) (f : Nat) (anc : List (List Name)) (cp : List Name) (n : Node) (hnl : n.isLink = false)
    (hl : fs.lstat src = some (cp, n)) (hx : fs.lexists tb = true) :
    walkEntry fs c none src tb (f + 1) [] anc = [.fail] := by
  have e1 : relJoin src [] = src := by simp [relJoin]
  have e2 : relJoin tb [] = tb := by simp [relJoin]
  simp [walkEntry, e1, e2, hd, hn, hl, hnl, hx]

theorem lexists_child_iff (fs : Fs) (dn : List Name) (b : Name) (es : Entries)
    (hdd : fs.root.getAt dn = some (.dir es)) (hlen : dn.length + 1 < 256) :
    fs.lexists (plainPath (dn ++ [b])) = true ↔ fs.root.getAt (dn ++ [b]) ≠ none := by
  have hla : NoLinkAbove fs.root (dn ++ [b]) := by
    intro p hp hne tg hgl
    have hpd := prefix_dropLast_of_ne hp hne
    rw [List.dropLast_concat] at hpd
    obtain ⟨es', hes'⟩ := getAt_prefix_dir hdd hpd
    rw [hes'] at hgl
    cases hgl
  constructor
  · intro h hnone
    rw [lexists_false_of_absent fs _ hla hnone] at h
    cases h
  · intro h
    cases hg : fs.root.getAt (dn ++ [b]) with
    | none => exact absurd hg h
    | some x =>
      have := lstat_of_getAt fs (dn ++ [b]) x (le_256_of_lt (by simpa using hlen)) hg
      simp [Fs.lexists, this]

theorem forall_or_first {α : Type} (P : α → Prop) : ∀ l : List α,
    (∀ a ∈ l, P a) ∨ ∃ pre a post, l = pre ++ a :: post ∧ (∀ b ∈ pre, P b) ∧ ¬ P a := by
  intro l
  induction l with
  | nil => exact .inl (fun _ h => (List.not_mem_nil h).elim)
  | cons a r ih =>
    by_cases ha : P a
    · rcases ih with h | ⟨pre, e0, post, h1, h2, h3⟩
      · exact .inl (List.forall_mem_cons.2 ⟨ha, h⟩)
      · exact .inr ⟨a :: pre, e0, post, by rw [h1, List.cons_append], List.forall_mem_cons.2 ⟨ha, h2⟩, h3⟩
    · exact .inr ⟨[], a, r, rfl, fun _ h => (List.not_mem_nil h).elim, ha⟩

theorem multi_collision_shape (fs : Fs) (c : Cfg) (dest : RPath) (pre post : List CopySrc) (e0 : CopySrc)
    (hd : c.dereference = false) (hn : c.noClobber = true)
    (hdd : ∃ es, fs.root.getAt dest.names = some (.dir es))
    (hsrc : PlainTarget fs e0.path ∧ fs.root.getAt e0.path.names = some e0.node ∧
      e0.path.names.length + walkFuel < 256)
    (hcol : fs.root.getAt (dest.names ++ [e0.base]) ≠ none)
    (hlen : dest.names.length + 1 + walkFuel < 256) :
    multiOps fs c dest (pre ++ e0 :: post) = multiOps fs c dest pre ++ .fail :: multiOps fs c dest post := by
  obtain ⟨hp, hsn, hl⟩ := hsrc
  obtain ⟨es, hes⟩ := hdd
  have hw : walkFuel = 64 := rfl
  rw [hw] at hl hlen
  have hnl : e0.node.isLink = false := hp.not_link hsn
  have hls := lstat_of_getAt fs e0.path.names e0.node (le_256_of_lt (by omega)) hsn
  rw [← plainTarget_eq fs e0.path hp] at hls
  have hx := (lexists_child_iff fs dest.names e0.base es hes (by omega)).2 hcol
  have h0 : walkEntry fs c none e0.path (plainPath (dest.names ++ [e0.base])) walkFuel [] [] = [.fail] := by
    rw [walkFuel_eq]
    exact walkEntry_collision fs c hd hn _ _ 63 [] _ _ hnl hls hx
  simp only [List.flatMap_append, List.flatMap_cons, h0, List.singleton_append]

theorem multi_collision_core (fs : Fs) (c : Cfg) (dest : RPath) (fuel : Nat) (pre post : List CopySrc) (e0 : CopySrc)
    (H : MultiHyp fs dest (pre ++ e0 :: post) fuel)
    (hd : c.dereference = false) (hn : c.noClobber = true)
    (hpre : ∀ e ∈ pre, fs.root.getAt (dest.names ++ [e.base]) = none)
    (hcol : fs.root.getAt (dest.names ++ [e0.base]) ≠ none)
    (ls : List Label) (s : St)
    (hrun : run c (init fs (multiOps fs c dest (pre ++ e0 :: post))) ls = some s) :
    ∃ s', CutRel (multiOps fs c dest post) s s' ∧
      Preserved fs.root s'.fs.root ∧
      (∀ op ∈ s'.queue, ∀ t, opTarget op = some t → s'.fs.lexists t = false) ∧
      (∀ op r, s'.todo = op :: r → ∀ t, opTarget op = some t → s'.fs.lexists t = false) := by
  obtain ⟨hwf, hdd, hfuel, hsrc, hnd, hun, hlen⟩ := H
  have hsub : ∀ e ∈ pre, e ∈ pre ++ e0 :: post := fun e he => List.mem_append_left _ he
  have h0 : e0 ∈ pre ++ e0 :: post := List.mem_append_right _ List.mem_cons_self
  obtain ⟨a1, _, a3, _, a5⟩ := hsrc e0 h0
  rw [multi_collision_shape fs c dest pre post e0 hd hn hdd ⟨a1, a3, a5⟩ hcol hlen] at hrun
  obtain ⟨ls', s', hr', hrel⟩ := cut_run c _ ls _ _ s (cut_init fs _ _) hrun
  have hnd' : (pre.map (·.base)).Nodup :=
    List.Nodup.sublist ((List.sublist_append_left pre (e0 :: post)).map _) hnd
  have H := multi_noclobber_any_interleaving ⟨hwf, hdd, hfuel, fun e he => hsrc e (hsub e he), hnd',
    fun e he e' he' => hun e (hsub e he) e' (hsub e' he'), hlen⟩ c hd hpre ls' s' hr'
  exact ⟨s', hrel, H.1, H.2.1, H.2.2.1⟩

theorem multi_collision_preserves (fs : Fs) (c : Cfg) (dest : RPath) (items : List CopySrc) (fuel : Nat)
    (H : MultiHyp fs dest items fuel)
    (hd : c.dereference = false) (hn : c.noClobber = true)
    (ls : List Label) (s : St)
    (hrun : run c (init fs (multiOps fs c dest items)) ls = some s) :
    Preserved fs.root s.fs.root ∧
    (∀ op ∈ s.queue, ∀ t, opTarget op = some t → s.fs.lexists t = false) ∧
    (∀ op r, s.todo = op :: r → ∀ t, opTarget op = some t → s.fs.lexists t = false) := by
  rcases forall_or_first (fun e : CopySrc => fs.root.getAt (dest.names ++ [e.base]) = none) items with habs | ⟨pre, e0, post, hit, hpre, hcol⟩
  · have H' := multi_noclobber_any_interleaving H c hd habs ls s hrun
    exact ⟨H'.1, H'.2.1, H'.2.2.1⟩
  · subst hit
    obtain ⟨s', hrel, H1, H2, H3⟩ := multi_collision_core fs c dest fuel pre post e0 H hd hn hpre hcol ls s hrun
    cases hrel with
    | before h1 h2 _ h4 =>
      rw [h1, h2]
      refine ⟨H1, H2, ?_⟩
      intro op r htd t ht
      rw [h4] at htd
      cases hs' : s'.todo with
      | nil =>
        rw [hs'] at htd
        simp only [List.nil_append, List.cons.injEq] at htd
        rw [← htd.1] at ht
        cases ht
      | cons op' r' =>
        rw [hs'] at htd
        simp only [List.cons_append, List.cons.injEq] at htd
        rw [← htd.1]  at ht
        exact H3 op' r' hs' t ht
    | after h1 h2 h3 _ _ =>
      rw [h1, h2]
      refine ⟨H1, H2, ?_⟩
      intro op r htd
      rw [h3] at htd
      cases htd

/-- sequential: the concatenated operations form a `FreshRun` up to the point where the run stops — each operation
is executed at a moment when its own target does not exist — whether or not some target exists; hence the sequential
run over all sources alters no entry that existed before, anywhere in the file system, also when it stops at a
collision -/
theorem multi_collision_seq_preserves (fs : Fs) (c : Cfg) (dest : RPath) (items : List CopySrc) (fuel : Nat)
    (hd : c.dereference = false) (hn : c.noClobber = true)
    (hwf : FsEq fs fs)
    (hdest : PlainTarget fs dest) (hdd : ∃ es, fs.root.getAt dest.names = some (.dir es))
    (hfuel : fuel < walkFuel)
    (hsrc : ∀ e ∈ items, PlainTarget fs e.path ∧ e.path.fileName = some e.base ∧
      fs.root.getAt e.path.names = some e.node ∧ e.node.Copyable fuel ∧ e.path.names.length + walkFuel < 256)
    (hnd : (items.map (·.base)).Nodup)
    (hun : ∀ e ∈ items, ∀ e' ∈ items,
      ¬ e.path.names <+: dest.names ++ [e'.base] ∧ ¬ dest.names ++ [e'.base] <+: e.path.names)
    (hlen : dest.names.length + 1 + walkFuel < 256) :
    Preserved fs.root (execOps fs c (multiOps fs c dest items)).fs.root := by
  have _ := hdest   -- the statement mentions `dest` only through `dest.names`
  apply freshRun_preserved c _ fs
  apply freshRun_of_reach
  intro ls s hr
  have := multi_collision_preserves fs c dest items fuel ⟨hwf, hdd, hfuel, hsrc, hnd, hun, hlen⟩ hd hn ls s hr
  exact ⟨this.2.1, this.2.2⟩

end Xcp
