import XcpProofs.TreeOps
import XcpProofs.Prune
/-! The walk over a plain source that designates a copyable tree emits the operations of the pruned tree.  The
induction over the tree is `walk_shape_gi`, for a pattern list; `walk_root_gi` is its case at the root.  The statements
without patterns, `walk_shape` and `walk_root`, follow: the walk without patterns is the walk with the empty pattern
list (`walkEntry_none`), and pruning with no patterns changes nothing (`prune_nil`, in Prune). -/
namespace Xcp

theorem walkEntry_none (fs : Fs) (c : Cfg) (src tb : RPath) :
    ∀ (f : Nat) (rel : List Name) (anc : List (List Name)),
      walkEntry fs c none src tb f rel anc = walkEntry fs c (some []) src tb f rel anc := by
  intro f
  induction f with
  | zero => intro rel anc; rfl
  | succ f ih =>
    intro rel anc
    have hb : ∀ lnode here d, walkBelow fs c none src tb f rel anc lnode here d =
        walkBelow fs c (some []) src tb f rel anc lnode here d := by
      intro lnode here d
      cases d with
      | none => rfl
      | some dc => simp only [walkBelow, ih]
    have hg : giDrops fs c none (relJoin src rel) rel = giDrops fs c (some []) (relJoin src rel) rel := rfl
    rw [walkEntry_succ, walkEntry_succ, hg]
    simp only [hb]

/-- The walk with patterns `ps` over a plain source designating a copyable subtree emits exactly the operations of
the pruned subtree — for the root (`rel = []`) always, below the root for an entry the patterns keep.  The probe of
`--no-clobber` must not fire: the option is off, or nothing exists at or below the target. -/
theorem walk_shape_gi (fs : Fs) (c : Cfg) (ps : List Gi.Pattern) (hd : c.dereference = false) (sn0 tn0 : List Name)
    (hn : c.noClobber = false ∨ ∀ rel, fs.lexists (relJoin (plainPath tn0) rel) = false) :
    ∀ (d : Nat) (n : Node), n.Copyable d → ∀ (rel : List Name) (anc : List (List Name)),
      fs.root.getAt (sn0 ++ rel) = some n → (n.isLink = true → rel ≠ []) → sn0.length + rel.length + d < 256 →
      GiPass ps rel n →
      walkEntry fs c (some ps) (plainPath sn0) (plainPath tn0) (d + 1) rel anc =
        opsOf (Node.prune ps rel n) (sn0 ++ rel) (tn0 ++ rel) := by
  refine copyable_induction ?_ ?_
  · intro n d hnd hc rel anc hg hlk hlen hk
    have hn' : c.noClobber = false ∨ fs.lexists (relJoin (plainPath tn0) rel) = false := hn.imp id (fun h => h rel)
    have hls := lstat_of_getAt fs (sn0 ++ rel) n
      (le_256_of_lt (by rw [List.length_append]; exact Nat.lt_of_add_right_lt hlen)) hg
    rw [← relJoin_plain] at hls
    rw [prune_nondir _ _ _ hnd]
    cases n with
    | file k => rw [walkEntry_file_gi fs c ps hd _ _ _ hn' _ _ _ k hk hls]; simp [opsOf, relJoin_plain]
    | link t => rw [walkEntry_link_gi fs c ps hd _ _ _ hn' _ _ _ t (hlk rfl) hk hls]; simp [opsOf, relJoin_plain]
    | special k dv =>
      rw [walkEntry_special_gi fs c ps hd _ _ _ hn' _ _ _ k dv (by simpa [Node.Copyable] using hc) hk hls]
      simp [opsOf, relJoin_plain]
    | dir es => cases hnd
  · intro es d hndp hch ih rel anc hg _ hlen hk
    have hn' : c.noClobber = false ∨ fs.lexists (relJoin (plainPath tn0) rel) = false := hn.imp id (fun h => h rel)
    have hls := lstat_of_getAt fs (sn0 ++ rel) _
      (le_256_of_lt (by rw [List.length_append]; exact Nat.lt_of_add_right_lt hlen)) hg
    rw [← relJoin_plain] at hls
    rw [walkEntry_dir_gi fs c ps hd _ _ _ hn' _ _ _ es es hk hls hg]
    simp only [Node.prune, opsOf, relJoin_plain]
    congr 1
    -- the children, one by one: kept ones give their pruned operations, excluded ones nothing
    have key : ∀ (l : List (Name × Node)), (∀ e ∈ l, e ∈ es) →
        ((l.map (·.1)).flatMap fun m =>
          walkEntry fs c (some ps) (plainPath sn0) (plainPath tn0) (d + 1) (rel ++ [m]) ((sn0 ++ rel) :: anc)) =
        opsOfL (pruneL ps rel l) (sn0 ++ rel) (tn0 ++ rel) := by
      intro l
      induction l with
      | nil => intro _; simp [pruneL, opsOfL]
      | cons e r ihl =>
        intro hsub
        obtain ⟨m, ch⟩ := e
        have hmem : (m, ch) ∈ es := hsub _ List.mem_cons_self
        have hget : fs.root.getAt (sn0 ++ (rel ++ [m])) = some ch := by
          rw [← List.append_assoc, Node.getAt_append, hg]
          simp [getAt_dir_cons, entGet_of_mem es hndp (m, ch) hmem]
        have hl' : sn0.length + (rel ++ [m]).length + d < 256 := add_length_child_lt _ rel m hlen
        simp only [List.map_cons, List.flatMap_cons]
        rw [ihl (fun e he => hsub e (List.mem_cons_of_mem _ he))]
        cases hkp : Gi.keeps ps (rel ++ [m]) ch.isDir with
        | true =>
          rw [ih (m, ch) hmem (rel ++ [m]) ((sn0 ++ rel) :: anc) hget (fun _ => by simp) hl' (.inr hkp),
            pruneL_cons_keep _ _ _ _ _ hkp]
          simp [opsOfL, List.append_assoc]
        | false =>
          have hls' := lstat_of_getAt fs (sn0 ++ (rel ++ [m])) ch
            (le_256_of_lt (by rw [List.length_append]; exact Nat.lt_of_add_right_lt hl')) hget
          rw [← relJoin_plain] at hls'
          rw [walkEntry_excluded_gi fs c ps hd _ _ _ _ _ _ ch (by simp) hkp hls', pruneL_cons_drop _ _ _ _ _ hkp]
          simp
    exact key es (fun _ h => h)

/-- the walk over a plain source designating a copyable subtree emits exactly `opsOf` -/
theorem walk_shape (fs : Fs) (c : Cfg) (hd : c.dereference = false) (sn0 tn0 : List Name)
    (hn : c.noClobber = false ∨ ∀ rel, fs.lexists (relJoin (plainPath tn0) rel) = false) :
    ∀ (d : Nat) (n : Node), n.Copyable d → ∀ (rel : List Name) (anc : List (List Name)),
      fs.root.getAt (sn0 ++ rel) = some n → (n.isLink = true → rel ≠ []) → sn0.length + rel.length + d < 256 →
      walkEntry fs c none (plainPath sn0) (plainPath tn0) (d + 1) rel anc = opsOf n (sn0 ++ rel) (tn0 ++ rel) := by
  intro d n hc rel anc hg hl hlen
  rw [walkEntry_none, walk_shape_gi fs c [] hd sn0 tn0 hn d n hc rel anc hg hl hlen (.inr rfl),
    prune_nil]

theorem absent_below (fs : Fs) (T : List Name) (habs : fs.root.getAt T = none)
    (hpar : ParentDir fs.root T) :
    ∀ rel, fs.lexists (relJoin (plainPath T) rel) = false := by
  intro rel
  rw [relJoin_plain]
  apply lexists_false_of_absent _ _ _ (getAt_append_none _ _ _ habs)
  intro p hp _ tg hgl
  -- a place `p` above `T ++ rel` that is a link: at or below `T` nothing exists; otherwise `p` is at or above the
  -- parent of `T`, a directory
  by_cases hT : T <+: p
  · obtain ⟨s', hs'⟩ := hT
    rw [← hs', getAt_append_none _ _ _ habs] at hgl
    cases hgl
  · obtain ⟨es, hes⟩ := hpar
    rcases List.eq_nil_or_concat T with h0 | ⟨par, nm, h0⟩
    · exact hT (h0 ▸ List.nil_prefix)
    · simp only [List.concat_eq_append] at h0
      subst h0
      rw [List.dropLast_concat] at hes
      rcases List.prefix_concat_iff.1 ((List.prefix_or_prefix_of_prefix hp (List.prefix_append _ rel)).resolve_right hT)
        with h | h
      · exact hT (h ▸ List.prefix_refl _)
      · exact noLinkUpto_of_getAt hes rfl p h tg hgl

theorem walk_root_gi (fs : Fs) (c : Cfg) (ps : List Gi.Pattern) (hd : c.dereference = false) (sn tn : List Name)
    (hn : c.noClobber = false ∨ ∀ rel, fs.lexists (relJoin (plainPath tn) rel) = false)
    {d : Nat} {n : Node} (hcop : n.Copyable d) (hsn : fs.root.getAt sn = some n) (hnl : n.isLink = false)
    (hl : sn.length + d < 256) :
    walkEntry fs c (some ps) (plainPath sn) (plainPath tn) (d + 1) [] [] = opsOf (Node.prune ps [] n) sn tn := by
  have h := walk_shape_gi fs c ps hd sn tn hn d n hcop [] [] (by rw [List.append_nil]; exact hsn)
    (fun h => by rw [hnl] at h; cases h) (by rw [List.length_nil, Nat.add_zero]; exact hl) (.inl rfl)
  rw [List.append_nil, List.append_nil] at h
  exact h

theorem walk_root (fs : Fs) (c : Cfg) (hd : c.dereference = false) (sn tn : List Name)
    (hn : c.noClobber = false ∨ ∀ rel, fs.lexists (relJoin (plainPath tn) rel) = false)
    {d : Nat} {n : Node} (hcop : n.Copyable d) (hsn : fs.root.getAt sn = some n) (hnl : n.isLink = false)
    (hl : sn.length + d < 256) :
    walkEntry fs c none (plainPath sn) (plainPath tn) (d + 1) [] [] = opsOf n sn tn := by
  rw [walkEntry_none, walk_root_gi fs c [] hd sn tn hn hcop hsn hnl hl, prune_nil]

end Xcp
