import XcpModel.Walker
/-! # The namespace result of an invocation depends only on the options that are about the namespace

`validate`, `targetBase`, `parseIgnore`, `walkEntry`, `execOp`, `execOps`, `runSources` and `L1run` consult exactly
five fields of `Cfg`: `noClobber`, `dereference`, `noTargetDir`, `gitignore`, `recursive`.  The driver
(`parblock`), `workers`, `bsize` (`--no-progress` sets it to the maximum), `fsync`, `noPerms`, `noTimestamps`,
`ownership`, `reflink`, `backup` and `linux` do not occur in them, so two invocations that agree on the five
fields (and on `force`, `glob`, `targetDir`, `paths`) have the same `L1run` outcome. -/
namespace Xcp

/-- agreement on exactly the `Cfg` fields that the namespace model (`Walker.lean`) consults -/
def Cfg.sameShape (c c' : Cfg) : Prop :=
  c.noClobber = c'.noClobber ∧ c.dereference = c'.dereference ∧ c.noTargetDir = c'.noTargetDir ∧
  c.gitignore = c'.gitignore ∧ c.recursive = c'.recursive

theorem Cfg.sameShape_refl (c : Cfg) : c.sameShape c := ⟨rfl, rfl, rfl, rfl, rfl⟩

theorem Cfg.sameShape_symm {c c' : Cfg} (h : c.sameShape c') : c'.sameShape c :=
  ⟨h.1.symm, h.2.1.symm, h.2.2.1.symm, h.2.2.2.1.symm, h.2.2.2.2.symm⟩

theorem Cfg.sameShape_trans {c c' c'' : Cfg} (h : c.sameShape c') (h' : c'.sameShape c'') : c.sameShape c'' :=
  ⟨h.1.trans h'.1, h.2.1.trans h'.2.1, h.2.2.1.trans h'.2.2.1, h.2.2.2.1.trans h'.2.2.2.1,
   h.2.2.2.2.trans h'.2.2.2.2⟩

theorem targetBase_congr {c c' : Cfg} (h : c.sameShape c') (fs : Fs) (dest src : RPath) :
    targetBase fs c dest src = targetBase fs c' dest src := by
  simp only [targetBase, h.2.2.1]

theorem parseIgnore_congr {c c' : Cfg} (h : c.sameShape c') (fs : Fs) (texts : GiTexts) (src : RPath) :
    parseIgnore fs c texts src = parseIgnore fs c' texts src := by
  simp only [parseIgnore, h.2.2.2.1]

theorem giIsDir_congr {c c' : Cfg} (h : c.sameShape c') (fs : Fs) (p : RPath) :
    giIsDir fs c p = giIsDir fs c' p := by
  simp only [giIsDir, h.2.1]

theorem walkEntry_congr {c c' : Cfg} (h : c.sameShape c') (fs : Fs) (gi : Ignore) (src tb : RPath)
    (fuel : Nat) (rel : List Name) (anc : List (List Name)) :
    walkEntry fs c gi src tb fuel rel anc = walkEntry fs c' gi src tb fuel rel anc := by
  induction fuel generalizing rel anc with
  | zero => simp only [walkEntry]
  | succ f ih =>
    simp only [walkEntry, giIsDir_congr h, h.1, h.2.1, ih]

theorem execOp_congr {c c' : Cfg} (h : c.sameShape c') (fs : Fs) (op : Op) :
    execOp fs c op = execOp fs c' op := by
  cases op <;> simp only [execOp, h.1]

theorem execOps_congr {c c' : Cfg} (h : c.sameShape c') (fs : Fs) (ops : List Op) :
    execOps fs c ops = execOps fs c' ops := by
  induction ops generalizing fs with
  | nil => simp only [execOps]
  | cons op r ih => simp only [execOps, execOp_congr h, ih]

theorem runSources_congr {c c' : Cfg} (h : c.sameShape c') (fs : Fs) (texts : GiTexts) (dest : RPath)
    (srcs : List RPath) :
    runSources fs c texts dest srcs = runSources fs c' texts dest srcs := by
  induction srcs generalizing fs with
  | nil => simp only [runSources]
  | cons s r ih =>
    simp only [runSources, targetBase_congr h, parseIgnore_congr h, walkEntry_congr h, execOps_congr h, ih]

theorem expandSources_congr {o o' : Opts} (hg : o.glob = o'.glob) (fs : Fs) (pats : List RPath) :
    expandSources fs o pats = expandSources fs o' pats := by
  simp only [expandSources, hg]

theorem checkSource_congr {o o' : Opts} (hc : o.cfg.sameShape o'.cfg) (fs : Fs) (dest src : RPath) :
    checkSource fs o dest src = checkSource fs o' dest src := by
  simp only [checkSource, targetBase_congr hc, hc.2.2.2.2]

theorem checkSources_congr {o o' : Opts} (hc : o.cfg.sameShape o'.cfg) (fs : Fs) (dest : RPath)
    (srcs : List RPath) :
    checkSources fs o dest srcs = checkSources fs o' dest srcs := by
  induction srcs with
  | nil => simp only [checkSources]
  | cons s r ih => simp only [checkSources, checkSource_congr hc, ih]

theorem validate_congr {o o' : Opts} (hc : o.cfg.sameShape o'.cfg) (hf : o.force = o'.force)
    (hg : o.glob = o'.glob) (ht : o.targetDir = o'.targetDir) (hp : o.paths = o'.paths) (fs : Fs) :
    validate fs o = validate fs o' := by
  simp only [validate, hc.1, hf, ht, hp, expandSources_congr hg, checkSources_congr hc]

/-- The outcome of a whole invocation (exit class and resulting namespace) is a function of the file system,
the `.gitignore` texts, `force`, `glob`, `targetDir`, `paths` and of the five `Cfg` fields in `sameShape` only. -/
theorem l1run_depends_only_on_shape_options (fs : Fs) (o o' : Opts) (texts : GiTexts)
    (hc : o.cfg.sameShape o'.cfg) (hf : o.force = o'.force) (hg : o.glob = o'.glob)
    (ht : o.targetDir = o'.targetDir) (hp : o.paths = o'.paths) :
    L1run fs o texts = L1run fs o' texts := by
  simp only [L1run, validate_congr hc hf hg ht hp, runSources_congr hc]

/-- Every value of every field outside `sameShape` (including `backup` and `linux`) gives the same outcome. -/
theorem l1run_irrelevant_fields (fs : Fs) (o : Opts) (texts : GiTexts) (parblock : Bool) (workers bsize : Nat)
    (noPerms noTimestamps ownership fsync linux : Bool) (reflink : Reflink) (backup : BackupMode) :
    L1run fs { o with cfg := { o.cfg with parblock := parblock, workers := workers, bsize := bsize,
                                           fsync := fsync, noPerms := noPerms, noTimestamps := noTimestamps,
                                           ownership := ownership, reflink := reflink, backup := backup,
                                           linux := linux } } texts
      = L1run fs o texts :=
  l1run_depends_only_on_shape_options fs _ o texts ⟨rfl, rfl, rfl, rfl, rfl⟩ rfl rfl rfl rfl

/-- For instance, the parallel-block driver, 64 workers, the maximal block size (`--no-progress`),
`--fsync`, `--no-perms`, `--no-timestamps`, `--ownership`, `--reflink=never` change nothing in the namespace
result. -/
theorem l1run_driver_and_metadata_options_irrelevant (fs : Fs) (o : Opts) (texts : GiTexts) :
    L1run fs { o with cfg := { o.cfg with parblock := true, workers := 64, bsize := 18446744073709551615,
                                           fsync := true, noPerms := true, noTimestamps := true,
                                           ownership := true, reflink := .never } } texts
      = L1run fs o texts :=
  l1run_irrelevant_fields fs o texts true 64 18446744073709551615 true true true true o.cfg.linux .never o.cfg.backup

end Xcp

#print axioms Xcp.walkEntry_congr
#print axioms Xcp.execOp_congr
#print axioms Xcp.execOps_congr
#print axioms Xcp.targetBase_congr
#print axioms Xcp.parseIgnore_congr
#print axioms Xcp.runSources_congr
#print axioms Xcp.validate_congr
#print axioms Xcp.l1run_depends_only_on_shape_options
#print axioms Xcp.l1run_driver_and_metadata_options_irrelevant
#print axioms Xcp.l1run_irrelevant_fields
