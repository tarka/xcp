import XcpProofs.DerefOverlay
import XcpProofs.MultiConc
/-! # Several sources with `--dereference` into one existing directory (`xcp -rL s1 … sn DEST/`)

The `-L` counterparts of `multi_sequential` and `multi_setup` (MultiConc), sequentially and under every interleaving,
with, per item, the tree seen from the source through all links (`e.s`, computed by `derefS` with the walker's fixed
fuel) in place of the source node.
The operation list is `multiOps` itself — its definition does not depend on the option: the concatenation of the
items' `walkEntry` lists, each computed in the initial file system with `walkFuel` — over the items' paths and base
names (`multiOpsD`).  An item `e` may be, or lie below, a symbolic link; no item may read from any item's target
region (`ReadsAway e.s (dest.names ++ [e'.base])` for all items `e`, `e'`).

Here every walk is evaluated in the initial state; `runSources`, which walks each later source in the state the
earlier ones left, needs more under `-L` (that walk re-resolves every link) and is not treated in this file. -/
namespace Xcp

open L0

/-- one source of a `-L` run: the path as spelled, its base name, and the tree seen from it through all links -/
structure DerefSrc where
  path : RPath
  base : Name
  s : SNode

/-- the item of the plain (no `-L`) development that has the same result: the tree seen through the links -/
def DerefSrc.toCopy (e : DerefSrc) : CopySrc := ⟨e.path, e.base, e.s.erase⟩

/-- `allOps` for `-L`: the lists `opsOfS` of the trees seen through the links, concatenated -/
def allOpsD (dn : List Name) (items : List DerefSrc) : List Op :=
  items.flatMap fun e => opsOfS e.s (dn ++ [e.base])

theorem exactStep_opsOfS (c : Cfg) (hn : c.noClobber = false) {fs0 : Fs} {dn : List Name} {Ts : List (List Name)}
    {es0 : Entries} (hdd : fs0.root.getAt dn = some (.dir es0)) (hTs : ∀ T ∈ Ts, ¬ T <+: dn)
    (e : DerefSrc) {d : Nat} (hsrc : SrcIn fs0.root e.s) (hcop : e.s.erase.Copyable d)
    (haway : ∀ T ∈ Ts, ReadsAway e.s T) (hT : dn ++ [e.base] ∈ Ts) (hdl : dn.length + 1 + d < 256) :
    ExactStep DerefSrc.toCopy (fun g e => execOps g c (opsOfS e.s (dn ++ [e.base]))) fs0 dn Ts e := by
  intro g h hcomp
  obtain ⟨es, hes⟩ := h.off.dir hdd hTs
  have hsrc' : SrcIn g.root e.s := by
    intro l hl
    obtain ⟨b1, b2, b3⟩ := hsrc l hl
    exact ⟨by rw [h.off.unrel l.1 (fun T hT => haway T hT l hl)]; exact b1, b2, b3⟩
  have hexec := exec_overlayS c hn d e.s hcop g dn e.base es [] hsrc' (haway _ hT) hes (h.wf.2.1 dn es hes)
    (fun x hx => subtree_WF h.wf.2.1 hx)
    (by rw [h.rest (dn ++ [e.base]) List.mem_cons_self]; exact hcomp) hdl
  rw [List.append_nil] at hexec
  exact hexec

/-- `CopySpec` for the concatenation: sibling targets are unrelated, and no item reads from any item's target region -/
theorem copySpec_allOpsD {fs0 : Fs} {items : List DerefSrc} {dn : List Name} {d : Nat}
    (hgood : ∀ e ∈ items, e.s.erase.Copyable d ∧ SrcIn fs0.root e.s) (hnd : (items.map (·.base)).Nodup)
    (haway : ∀ e ∈ items, ∀ e' ∈ items, ReadsAway e.s (dn ++ [e'.base])) (hlen : dn.length + 1 + d < 256) :
    CopySpec fs0 (items.map fun e => ⟨dn ++ [e.base], e.s.erase⟩) d (allOpsD dn items) := by
  refine CopySpec.flatMap (fun e : DerefSrc => (⟨dn ++ [e.base], e.s.erase⟩ : Tgt)) _ items ?_ ?_ ?_
  · intro e he
    exact copySpec_opsOfS (hgood e he).1 (hgood e he).2 (haway e he e he) (by simp)
      (by simp only [List.length_append, List.length_cons, List.length_nil]; omega)
  · exact (List.pairwise_map.1 hnd).imp fun hb => ⟨sibling_unrel dn hb, sibling_unrel dn (Ne.symm hb)⟩
  · intro e he x hx s hs e' he'
    obtain ⟨rel, m, cp, _, _, ex, hlf⟩ := mem_opsOfS d e.s (hgood e he).1 _ x hx
    rw [ex] at hs
    obtain ⟨e1, hmd, _⟩ := headOp_srcOf _ _ _ _ hs
    subst e1
    rw [plainPath_names]
    exact ⟨(haway e he e' he' _ (hlf hmd)).2, (haway e he e' he' _ (hlf hmd)).1⟩

/-- the concatenation can be walked in order as soon as `dn` is a directory -/
theorem todoOK_allOpsD (dn : List Name) : ∀ (items : List DerefSrc) (D : List Name → Prop), D dn →
    TodoOK D (allOpsD dn items)
  | [], _, _ => trivial
  | e :: r, D, hD => by
    show TodoOK D (opsOfS e.s (dn ++ [e.base]) ++ allOpsD dn r)
    rw [← todoOK_dropSrc, List.map_append, opsOfS_dropSrc e.s [] (dn ++ [e.base]), ← List.map_append, todoOK_dropSrc]
    exact todoOK_opsOf e.s.erase _ _ D _ (by rw [List.dropLast_concat]; exact hD) (todoOK_allOpsD dn r D hD)

/-- the walker's lists for the items, computed in the initial file system with the walker's fixed fuel, concatenated:
`multiOps` over the items' paths and base names -/
abbrev multiOpsD (fs : Fs) (c : Cfg) (dest : RPath) (items : List DerefSrc) : List Op :=
  multiOps fs c dest (items.map DerefSrc.toCopy)

/-- the final tree: every target overlaid with its item's dereferenced tree, in argv order -/
abbrev overlayAllD (root0 : Node) (dn : List Name) (items : List DerefSrc) (r : Node) : Node :=
  overlayAll root0 dn (items.map DerefSrc.toCopy) r

/-- the standing hypotheses on the sources and the destination directory of `xcp -rL s1 … sn DEST/`: every source is
absolute and spelled with names only (it may be, or lie below, a symbolic link) and `e.s` is the tree seen from it
through the links; the base names are pairwise distinct; no item reads from any item's target region -/
structure DerefHyp (fs : Fs) (dest : RPath) (items : List DerefSrc) : Prop where
  wf : FsEq fs fs
  dd : ∃ es, fs.root.getAt dest.names = some (.dir es)
  src : ∀ e ∈ items, AbsNames e.path ∧ e.path.fileName = some e.base ∧
    derefS fs walkFuel e.path.names [] = some e.s
  nd : (items.map (·.base)).Nodup
  away : ∀ e ∈ items, ∀ e' ∈ items, ReadsAway e.s (dest.names ++ [e'.base])
  len : dest.names.length + 1 + walkFuel < 256

/-- the walker's lists under `-L` are the lists `opsOfS` of the trees seen through the links; their concatenation
satisfies the static facts of a copy to the items' targets -/
theorem multi_deref_setup (fs : Fs) (c : Cfg) (dest : RPath) (items : List DerefSrc)
    (H : DerefHyp fs dest items) (hd : c.dereference = true) (hn : c.noClobber = false) :
    multiOpsD fs c dest items = allOpsD dest.names items ∧
    (∀ e ∈ items, e.s.erase.Copyable walkFuel ∧ SrcIn fs.root e.s) ∧
    CopySpec fs (items.map fun e => ⟨dest.names ++ [e.base], e.s.erase⟩) walkFuel (allOpsD dest.names items) ∧
    TodoOK (DirsOf fs) (allOpsD dest.names items) := by
  obtain ⟨hwf, ⟨des, hdes⟩, hsrc, hnd, haway, hlen⟩ := H
  have hroot : fs.root.isLink = false := root_not_link_of_dir hdes
  have hgood : ∀ e ∈ items, e.s.erase.Copyable walkFuel ∧ SrcIn fs.root e.s := fun e he =>
    derefS_good fs hroot hwf.2.1 walkFuel e.path.names [] e.s (hsrc e he).2.2
  refine ⟨?_, hgood, copySpec_allOpsD hgood hnd haway hlen,
    todoOK_allOpsD dest.names items _ ⟨des, hdes⟩⟩
  -- the shape of each walk
  show (items.map DerefSrc.toCopy).flatMap _ = _
  rw [List.flatMap_map]
  apply flatMap_congr_mem
  intro e he
  obtain ⟨hp, _, hder⟩ := hsrc e he
  have hshape := walk_shape_deref fs c hd hroot e.path.names (dest.names ++ [e.base]) (.inl hn) walkFuel [] [] e.s
    (by simpa using hder)
  rw [← absNames_eq hp] at hshape
  simp only [List.append_nil] at hshape
  exact hshape

/-- several sources with `--dereference`, sequential: the operations all succeed, and every target is overlaid with
the tree seen from its source through the links; nothing else changes (up to the order of directory entries) -/
theorem multi_deref_sequential (fs : Fs) (c : Cfg) (dest : RPath) (items : List DerefSrc)
    (H : DerefHyp fs dest items) (hd : c.dereference = true) (hn : c.noClobber = false)
    (hcomp : ∀ e ∈ items, Compatible (fs.root.getAt (dest.names ++ [e.base])) e.s.erase) :
    ∃ fs', execOps fs c (multiOpsD fs c dest items) = ⟨.ok, fs'⟩ ∧
      FsEq fs' { fs with root := overlayAllD fs.root dest.names items fs.root } := by
  obtain ⟨hops, hgood, _, _⟩ := multi_deref_setup fs c dest items H hd hn
  obtain ⟨hwf, ⟨es0, hes0⟩, _, hnd, haway, hlen⟩ := H
  have hTs : ∀ T ∈ items.map (fun e => dest.names ++ [e.base]), ¬ T <+: dest.names := by
    intro T hT
    obtain ⟨e, _, rfl⟩ := List.mem_map.1 hT
    exact child_not_prefix dest.names e.base
  have h := foldRun_overlay (cp := DerefSrc.toCopy) hes0 hTs items fs (by rw [List.map_map]; exact hnd)
    (fun e he => List.mem_map_of_mem he)
    (fun e he => overlay_WF walkFuel _ (hgood e he).1 _
      (fun x hx => subtree_WF hwf.2.1 hx))
    hcomp
    (fun e he => exactStep_opsOfS c hn hes0 hTs e (hgood e he).2 (hgood e he).1
      (by
        intro T hT
        obtain ⟨e', he', rfl⟩ := List.mem_map.1 hT
        exact haway e he e' he')
      (List.mem_map_of_mem he) hlen)
    (Ready.init hwf _ _)
  rw [← execOps_flatMap] at h
  rw [hops]
  exact h

/-- several sources with `--dereference`, every interleaving: no reachable state of the concurrent model is failed,
and every complete run ends with every target overlaid with its item's dereferenced tree -/
theorem multi_deref_concurrent_ok (fs : Fs) (c : Cfg) (dest : RPath) (items : List DerefSrc)
    (H : DerefHyp fs dest items) (hd : c.dereference = true) (hn : c.noClobber = false)
    (hcomp : ∀ e ∈ items, Compatible (fs.root.getAt (dest.names ++ [e.base])) e.s.erase)
    (ls : List Label) (st : St)
    (hrun : run c (init fs (multiOpsD fs c dest items)) ls = some st) :
    st.failed = false ∧ (final st = true →
      FsEq st.fs { fs with root := overlayAllD fs.root dest.names items fs.root }) := by
  obtain ⟨fs', hex, heq⟩ := multi_deref_sequential fs c dest items H hd hn hcomp
  obtain ⟨hops, _, hspec, htodo⟩ := multi_deref_setup fs c dest items H hd hn
  rw [hops] at hrun hex
  have h := run_ok_and_refines hspec (List.forall_mem_map.2 fun e he => head0_of_compatible (hcomp e he)) c H.wf
    (.inl hn) (List.forall_mem_map.2 fun e _ => parentDir_child e.base H.dd) htodo hex ls st hrun
  exact ⟨h.1, fun hfin => (h.2 hfin).trans heq⟩

/-! ## Non-vacuity: a concrete two-item instance

`/S` = { file `a`; `l` → `a`; `m` → `/O/f` (absolute, outside the source) }, `/O` = { file `f` }, `/B` = { file `y`;
`k` → `../O/f` }, and the destination `/T` = { `B` = { file `y` (to be overwritten); file `z` (kept) } }.  The run is
`xcp -rL /S /B /T`: the target `/T/S` is absent and receives the link-containing directory `S` with every link replaced
by what it leads to; the target `/T/B` exists and is merged into. -/
namespace MultiDerefExample

open DerefExample (nS nO nT)

def nB : Name := [66]

def exRoot : Node := .dir [
  (nS, .dir [([97], .file 1),
             ([108], .link ⟨false, [.name [97]], false⟩),
             ([109], .link ⟨true, [.name nO, .name [102]], false⟩)]),
  (nO, .dir [([102], .file 2)]),
  (nB, .dir [([121], .file 3), ([107], .link ⟨false, [.parent, .name nO, .name [102]], false⟩)]),
  (nT, .dir [(nB, .dir [([121], .file 9), ([122], .file 7)])])]

def exFs : Fs := ⟨exRoot, []⟩
def exCfg : Cfg := { dereference := true }
def exDestP : RPath := plainPath [nT]

/-- the trees seen through the links, with the canonical path of every node -/
def exS : SNode := .dir [nS] [
  ([97], .file [nS, [97]] 1),
  ([108], .file [nS, [97]] 1),
  ([109], .file [nO, [102]] 2)]
def exB : SNode := .dir [nB] [
  ([121], .file [nB, [121]] 3),
  ([107], .file [nO, [102]] 2)]

def itemS : DerefSrc := ⟨plainPath [nS], nS, exS⟩
def itemB : DerefSrc := ⟨plainPath [nB], nB, exB⟩
def exItems : List DerefSrc := [itemS, itemB]

/-- the destination afterwards: `/T/B` = { `y` rewritten in place, `z` kept, `k` appended as a regular file };
`/T/S` = the `S` tree with `l` and `m` as regular files -/
def exDestAfter : Node := .dir [
  (nB, .dir [([121], .file 3), ([122], .file 7), ([107], .file 2)]),
  (nS, .dir [([97], .file 1), ([108], .file 1), ([109], .file 2)])]

theorem exS_computed : derefS exFs walkFuel [nS] [] = some exS := by rfl
theorem exB_computed : derefS exFs walkFuel [nB] [] = some exB := by rfl

theorem ex_result : overlayAllD exFs.root [nT] exItems exFs.root = exFs.root.setAt [nT] exDestAfter := by rfl

theorem exFs_wf : FsEq exFs exFs := by
  have h : exRoot.Copyable 4 := by
    simp [exRoot, Node.Copyable, Node.Copyable.CopyableL, nS, nO, nT, nB]
  exact ⟨rfl, copyable_WF 4 _ h, copyable_WF 4 _ h, SameObs.refl _⟩

theorem ex_hsrc : ∀ e ∈ exItems, AbsNames e.path ∧ e.path.fileName = some e.base ∧
    derefS exFs walkFuel e.path.names [] = some e.s := by
  intro e he
  simp only [exItems, List.mem_cons, List.not_mem_nil, or_false] at he
  rcases he with he | he <;> subst he
  · exact ⟨plainPath_namesOnly _, rfl, by show derefS exFs walkFuel (plainPath [nS]).names [] = _; rw [plainPath_names]; exact exS_computed⟩
  · exact ⟨plainPath_namesOnly _, rfl, by show derefS exFs walkFuel (plainPath [nB]).names [] = _; rw [plainPath_names]; exact exB_computed⟩

theorem ex_haway : ∀ e ∈ exItems, ∀ e' ∈ exItems, ReadsAway e.s ([nT] ++ [e'.base]) := by decide

theorem ex_hcomp : ∀ e ∈ exItems, Compatible (exFs.root.getAt ([nT] ++ [e.base])) e.s.erase := by
  intro e he
  simp only [exItems, List.mem_cons, List.not_mem_nil, or_false] at he
  rcases he with he | he <;> subst he
  · show Node.compatible _ _ = true
    rfl
  · show Node.compatible _ _ = true
    rfl

theorem ex_hyp : DerefHyp exFs exDestP exItems :=
  ⟨exFs_wf, by rw [exDestP, plainPath_names]; exact ⟨_, by rfl⟩, ex_hsrc, by decide,
    by rw [exDestP, plainPath_names]; exact ex_haway, by rw [exDestP, plainPath_names]; decide⟩

/-- the sequential theorem applied to the instance -/
theorem example_run :
    ∃ fs', execOps exFs exCfg (multiOpsD exFs exCfg exDestP exItems) = ⟨.ok, fs'⟩ ∧
      FsEq fs' { exFs with root := exFs.root.setAt [nT] exDestAfter } := by
  have h := multi_deref_sequential exFs exCfg exDestP exItems ex_hyp rfl rfl
    (by rw [exDestP, plainPath_names]; exact ex_hcomp)
  rw [exDestP, plainPath_names, ex_result] at h
  exact h

/-- … and the concurrent one: whatever the interleaving, no failure, and a complete run ends in the same tree -/
theorem example_concurrent (ls : List Label) (st : St)
    (hrun : run exCfg (init exFs (multiOpsD exFs exCfg exDestP exItems)) ls = some st) :
    st.failed = false ∧
      (final st = true → FsEq st.fs { exFs with root := exFs.root.setAt [nT] exDestAfter }) := by
  have h := multi_deref_concurrent_ok exFs exCfg exDestP exItems ex_hyp rfl rfl
    (by rw [exDestP, plainPath_names]; exact ex_hcomp) ls st hrun
  rw [exDestP, plainPath_names, ex_result] at h
  exact h

/-- the run evaluates to the same tree (evaluation of the model) -/
theorem example_by_evaluation :
    (execOps exFs exCfg (multiOpsD exFs exCfg exDestP exItems)).exit = .ok ∧
      (execOps exFs exCfg (multiOpsD exFs exCfg exDestP exItems)).fs.root.getAt [nT] = some exDestAfter := by
  exact ⟨rfl, rfl⟩

/-- the side condition is not idle: were `k` of `/B` a link to the other item's future target `/T/S/a`, it would fail -/
example : ¬ ReadsAway (.dir [nB] [([107], .file [nT, nS, [97]] 1)]) ([nT] ++ [nS]) := by decide

end MultiDerefExample

end Xcp
