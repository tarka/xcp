import XcpProofs.WalkShape
/-! One source copied to a destination that may exist already ("cp -r S D" a second time, or into a directory that has
other entries): the sequential execution (L1) of the walk's operations succeeds and leaves the destination overlaid
with the source tree — minus what `--gitignore` patterns exclude —, and touches nothing else.
`Node.overlay`/`Compatible` say what is left and when; `placeAt` is the exact tree; `exec_place` runs `opsOf` of a tree
onto a compatible place; `CopySetup` bundles the hypotheses on source and target; `overlay_exact` and
`gitignore_overlay` are the theorem, the absent target and the empty pattern list its special cases.  Before them:
tree algebra for a place that exists, and the exact effect of each operation on a plain target that exists already. -/
namespace Xcp

theorem entDel_absent (es : Entries) (n : Name) (h : entGet es n = none) : entDel es n = es := by
  induction es with
  | nil => rfl
  | cons kv r ih =>
    obtain ⟨k, w⟩ := kv
    by_cases hk : k = n
    · simp [entGet, hk] at h
    · simp only [entGet, hk, if_false] at h
      simp [entDel, hk, ih h]

theorem nodup_keys_entDel (es : Entries) (n : Name) (h : (es.map (·.1)).Nodup) :
    ((entDel es n).map (·.1)).Nodup :=
  (keys_entDel_sublist es n).nodup h

/-- changing the entries of a directory that is there is writing the changed directory there -/
theorem modAt_eq_setAt (g : Entries → Entries) : ∀ (par : List Name) (root : Node) (pes : Entries),
    root.getAt par = some (.dir pes) → root.modAt par g = root.setAt par (.dir (g pes)) := by
  intro par
  induction par with
  | nil =>
    intro root pes hp
    rw [getAt_nil] at hp
    cases hp
    rw [setAt_nil]
    rfl
  | cons a r ih =>
    intro root pes hp
    obtain ⟨es, c, rfl, hc, hx⟩ := Node.getAt_cons_some hp
    rw [modAt_dir_cons, hc]
    simp only
    rw [ih c pes hx]
    cases r with
    | nil => rw [setAt_nil, setAt_dir_single]
    | cons b r' => rw [setAt_dir_cons, hc]

theorem setAt_child (root : Node) (par : List Name) (nm : Name) (pes : Entries) (v : Node)
    (hp : root.getAt par = some (.dir pes)) :
    root.setAt (par ++ [nm]) v = root.setAt par (.dir (entSet pes nm v)) := by
  rw [setAt_snoc, modAt_eq_setAt _ par root pes hp]

theorem delAt_child (root : Node) (par : List Name) (nm : Name) (pes : Entries)
    (hp : root.getAt par = some (.dir pes)) :
    root.delAt (par ++ [nm]) = root.setAt par (.dir (entDel pes nm)) := by
  rw [delAt_snoc, modAt_eq_setAt _ par root pes hp]

theorem setAt_same : ∀ (t : List Name) (r x : Node), r.getAt t = some x → r.setAt t x = r := by
  refine snoc_induction ?_ ?_
  · intro r x h
    rw [getAt_nil] at h
    cases h
    exact setAt_nil _ _
  · intro par n ih r x h
    rw [Node.getAt_append] at h
    cases hp : r.getAt par with
    | none => rw [hp] at h; cases h
    | some p =>
      rw [hp] at h
      obtain ⟨pes, c, rfl, hc, hx⟩ := Node.getAt_cons_some h
      rw [getAt_nil] at hx
      cases hx
      rw [setAt_child r par n pes _ hp, entSet_same _ _ _ hc, ih r _ hp]

theorem setAt_setAt_same (r : Node) (t : List Name) (v w : Node) : (r.setAt t v).setAt t w = r.setAt t w := by
  have := setAt_setAt_below v w [] t r
  simpa using this

theorem delAt_absent (root : Node) (par : List Name) (nm : Name) (pes : Entries)
    (hp : root.getAt par = some (.dir pes)) (hn : root.getAt (par ++ [nm]) = none) :
    root.delAt (par ++ [nm]) = root := by
  have he : entGet pes nm = none := by
    rw [Node.getAt_append, hp] at hn
    simp only [Option.bind_some, getAt_dir_cons] at hn
    cases hg : entGet pes nm with
    | none => rfl
    | some c => simp [hg] at hn
  rw [delAt_child root par nm pes hp, entDel_absent _ _ he, setAt_same par root _ hp]

theorem getAt_child (root : Node) (par : List Name) (nm : Name) (pes : Entries)
    (hp : root.getAt par = some (.dir pes)) : root.getAt (par ++ [nm]) = entGet pes nm := by
  rw [Node.getAt_append, hp]
  simp only [Option.bind_some, getAt_dir_cons]
  cases entGet pes nm <;> simp

/-- `File::create` + copy over an existing regular file: the same place, the new content -/
theorem execOp_copy_over (g : Fs) (c : Cfg) (sn tn : List Name) (k k' : Nat)
    (hs : g.root.getAt sn = some (.file k)) (ht : g.root.getAt tn = some (.file k'))
    (hne : sn ≠ tn) (hls : sn.length ≤ 256) (hlt : tn.length < 256) :
    execOp g c (.copy (plainPath sn) (plainPath tn)) =
      some { g with root := g.root.setAt tn (.file k) } := by
  have hst := stat_of_getAt g sn (.file k) hls hs rfl
  have htt := stat_of_getAt g tn (.file k') (le_256_of_lt hlt) ht rfl
  have hr := resolve_of_getAt g tn true (.file k') (le_256_of_lt hlt) ht (fun _ => rfl)
  simp [execOp, Fs.contentOf, hst, Fs.exists, htt, Fs.sameFile, hne, Fs.createFile, hr, ht, Except.toOption]

/-- `create_dir_all` of an existing directory -/
theorem execOp_mkdir_over (g : Fs) (c : Cfg) (tn : List Name) (es : Entries)
    (ht : g.root.getAt tn = some (.dir es)) (hlt : tn.length < 256) :
    execOp g c (.mkdir (plainPath tn)) = some g := by
  simp only [execOp]
  rw [mkdirAll_of_dir g tn es hlt ht]
  rfl

/-- a special file over an existing non-directory (not a link): unlink, then mknod — the entry is re-created -/
theorem execOp_special_over (g : Fs) (c : Cfg) (hn : c.noClobber = false) (sn par : List Name) (nm : Name)
    (k : FileKind) (d : Nat) (pes : Entries) (x : Node)
    (hs : g.root.getAt sn = some (.special k d)) (hp : g.root.getAt par = some (.dir pes))
    (hnd : (pes.map (·.1)).Nodup)
    (ht : g.root.getAt (par ++ [nm]) = some x) (hxd : x.isDir = false) (hxl : x.isLink = false)
    (hne : sn ≠ par ++ [nm]) (hls : sn.length ≤ 256) (hlt : par.length + 1 < 256) :
    execOp g c (.special (plainPath sn) (plainPath (par ++ [nm]))) =
      some { g with root := (g.root.delAt (par ++ [nm])).setAt (par ++ [nm]) (.special k d) } := by
  have hlt' : (par ++ [nm]).length < 256 := by simpa using hlt
  have hst := stat_of_getAt g sn (.special k d) hls hs rfl
  have htt := stat_of_getAt g (par ++ [nm]) x (le_256_of_lt hlt') ht hxl
  have hr := resolve_of_getAt g (par ++ [nm]) false x (le_256_of_lt hlt') ht (fun h => by cases h)
  have hu : g.unlink (plainPath (par ++ [nm])) = .ok { g with root := g.root.delAt (par ++ [nm]) } := by
    cases x <;> simp [Node.isDir] at hxd <;> simp [Fs.unlink, hr, ht]
  have hdel := delAt_child g.root par nm pes hp
  have hp1 : (g.root.delAt (par ++ [nm])).getAt par = some (.dir (entDel pes nm)) := by
    rw [hdel]; exact getAt_setAt_exists g.root par _ _ hp
  have hn1 : (g.root.delAt (par ++ [nm])).getAt (par ++ [nm]) = none := by
    rw [getAt_child _ par nm _ hp1]
    exact entGet_entDel_self pes nm hnd
  have hr1 := resolve_plain_missing { g with root := g.root.delAt (par ++ [nm]) } par nm false _
    (by omega) hp1 hn1
  simp [execOp, hst, Fs.exists, htt, hn, Fs.sameFile, hne, hu, Fs.mknod, hr1, Except.toOption]

theorem sameObs_of_replacedAt {r r1 r2 : Node} {ns : List Name} {w : ONode}
    (h1 : ReplacedAt r r1 ns w) (h2 : ReplacedAt r r2 ns w) : SameObs r1 r2 := by
  intro q
  by_cases hq : ns <+: q
  · exact h1.at_below h2 q hq
  · rw [h1.out q hq, h2.out q hq]

/-- unlink + re-create and overwrite in place differ in the order of directory entries only -/
theorem sameObs_reset_set (r : Node) (ns : List Name) (v : Node) (hp : ParentDir r ns)
    (hv : v.isDir = false) : SameObs ((r.delAt ns).setAt ns v) (r.setAt ns v) :=
  sameObs_of_replacedAt (replacedAt_reset r ns v hp (leafLike_nondir v hv))
    (replacedAt_setAt r ns v hp (leafLike_nondir v hv))

theorem execOps_wf (c : Cfg) : ∀ (ops : List Op) (f f' : Fs), FsEq f f → execOps f c ops = ⟨.ok, f'⟩ →
    FsEq f' f' := by
  intro ops
  induction ops with
  | nil =>
    intro f f' hf h
    simp only [execOps, Outcome.mk.injEq, true_and] at h
    subst h
    exact hf
  | cons op r ih =>
    intro f f' hf h
    have hc := execOp_cong hf c op
    cases ho : execOp f c op with
    | none => simp [execOps, ho] at h
    | some f1 =>
      rw [ho] at hc
      simp only [execOps, ho] at h
      exact ih f1 f' hc h

/-- put `v` under the name `m`: in place (keeping the readdir position) or appended — except that a special file is
always re-created (`execOp`'s `.special` branch unlinks an existing target, then `mknod`s), so it goes to the end -/
def entPut (acc : Entries) (m : Name) (v : Node) : Entries :=
  entSet (if v.isSpecial then entDel acc m else acc) m v

mutual
/-- What `execOp` (with `noClobber = false`) leaves at a place holding `dst` after the operations of the source
tree `src` have run there:
* a directory over a directory: the existing entries, each source entry overlaid onto the existing entry of the same
  name (in place) or appended, in the source's order — the entry order is exactly the one `setAt`/`entSet` produce;
* anything over nothing: the source node;
* a regular file over a regular file: the file with the source's content (`createFile` = `setAt q (.file c)`);
* a special file over an existing non-directory: the special file.
In every other case (where `Compatible` fails) the value is the source node, and is not meant. -/
def Node.overlay : Option Node → Node → Node
  | some (.dir des), .dir ses => .dir (overlayL des ses)
  | _, n => n
def overlayL : Entries → List (Name × Node) → Entries
  | acc, [] => acc
  | acc, (m, ch) :: r => overlayL (entPut acc m (Node.overlay (entGet acc m) ch)) r
end

mutual
/-- The cases in which every operation of the walk succeeds and no symbolic link of the destination is written
through:
* the place is free;
* a regular file over a regular file;
* a special file over a regular or special file (unlink + mknod);
* a directory over a directory whose same-named entries are compatible, recursively.
Excluded: a symbolic link over anything that exists (`symlink` fails with EEXIST); a directory over a non-directory
and a file or special file over a directory (`mkdir`/`create`/`unlink` fail); and any source node over an existing
symbolic link — in particular a regular file over a symbolic link, which `File::create` follows: the write lands
outside the destination (recorded finding F13), and a regular file over a special file (in the model the open
succeeds and replaces nothing).  These are excluded by hypothesis, not proved harmless. -/
def Node.compatible : Option Node → Node → Bool
  | none, _ => true
  | some (.file _), .file _ => true
  | some (.file _), .special _ _ => true
  | some (.special _ _), .special _ _ => true
  | some (.dir des), .dir ses => compatibleL des ses
  | _, _ => false
def compatibleL : Entries → List (Name × Node) → Bool
  | _, [] => true
  | des, (m, ch) :: r => Node.compatible (entGet des m) ch && compatibleL des r
end

/-- what is at the destination (`none`: nothing) can be overlaid with `src` without an operation failing: the hypothesis
of the overlay theorems, decidable (`Node.compatible`) -/
def Compatible (dst : Option Node) (src : Node) : Prop := Node.compatible dst src = true

instance (dst : Option Node) (src : Node) : Decidable (Compatible dst src) := by
  unfold Compatible; infer_instance

/-- the tree after the operations of `n` have run at `tn`, exactly (entry order included): a special file is
re-created, everything else is written in place -/
def placeAt (root : Node) (tn : List Name) (dst : Option Node) (n : Node) : Node :=
  if n.isSpecial then (root.delAt tn).setAt tn n else root.setAt tn (Node.overlay dst n)

@[simp] theorem overlay_none (n : Node) : Node.overlay none n = n := by
  cases n <;> simp [Node.overlay]

theorem compatible_none (n : Node) : Compatible none n := by
  cases n <;> simp [Compatible, Node.compatible]

theorem compatibleL_nil : ∀ (es : List (Name × Node)), compatibleL [] es = true
  | [] => rfl
  | (_, ch) :: r => by
    rw [compatibleL, compatibleL_nil r, Bool.and_true]
    exact compatible_none ch

theorem compatible_dir {x : Node} {es : List (Name × Node)} (h : Compatible (some x) (.dir es)) :
    ∃ des, x = .dir des ∧ compatibleL des es = true := by
  cases x with
  | dir des => exact ⟨des, rfl, h⟩
  | _ => cases h

theorem overlay_nondir (dst : Option Node) (n : Node) (h : n.isDir = false) : Node.overlay dst n = n := by
  cases n <;> simp [Node.isDir] at h <;>
    (cases dst with
     | none => rfl
     | some x => cases x <;> rfl)

theorem overlay_of_special (dst : Option Node) (n : Node) (h : n.isSpecial = true) : Node.overlay dst n = n := by
  cases n <;> simp [Node.isSpecial] at h
  exact overlay_nondir dst _ rfl

theorem overlay_isSpecial (dst : Option Node) (n : Node) : (Node.overlay dst n).isSpecial = n.isSpecial := by
  cases hd : n.isDir with
  | false => rw [overlay_nondir dst n hd]
  | true =>
    cases n <;> simp [Node.isDir] at hd
    rename_i es
    cases dst with
    | none => simp
    | some x => cases x <;> simp [Node.overlay, Node.isSpecial]

theorem entGet_entPut_self (acc : Entries) (m : Name) (v : Node) : entGet (entPut acc m v) m = some v := by
  unfold entPut
  exact entGet_entSet_self _ _ _

theorem entGet_entPut_ne (acc : Entries) (m m' : Name) (v : Node) (h : m ≠ m') :
    entGet (entPut acc m v) m' = entGet acc m' := by
  unfold entPut
  split
  · rw [entGet_entSet_ne _ _ _ _ h, entGet_entDel_ne _ _ _ h]
  · rw [entGet_entSet_ne _ _ _ _ h]

theorem nodup_keys_entPut (acc : Entries) (m : Name) (v : Node) (h : (acc.map (·.1)).Nodup) :
    ((entPut acc m v).map (·.1)).Nodup := by
  unfold entPut
  split
  · exact nodup_keys_entSet _ _ _ (nodup_keys_entDel _ _ h)
  · exact nodup_keys_entSet _ _ _ h

theorem entGet_overlayL_notin (m : Name) : ∀ (ses : List (Name × Node)) (acc : Entries), m ∉ ses.map (·.1) →
    entGet (overlayL acc ses) m = entGet acc m := by
  intro ses
  induction ses with
  | nil => intro acc _; simp [overlayL]
  | cons e r ih =>
    intro acc h
    obtain ⟨k, ch⟩ := e
    simp only [List.map_cons, List.mem_cons, not_or] at h
    simp only [overlayL]
    rw [ih _ h.2, entGet_entPut_ne _ _ _ _ (fun e => h.1 e.symm)]

theorem compatibleL_mem {des : Entries} {ses : List (Name × Node)} (h : compatibleL des ses = true) :
    ∀ e ∈ ses, Compatible (entGet des e.1) e.2 := by
  induction ses with
  | nil => intro e he; cases he
  | cons kv r ih =>
    obtain ⟨k, x⟩ := kv
    simp only [compatibleL, Bool.and_eq_true] at h
    intro e he
    cases he with
    | head => exact h.1
    | tail _ hm => exact ih h.2 e hm

theorem placeAt_child (root : Node) (tn : List Name) (m : Name) (acc : Entries) (dst : Option Node) (ch : Node)
    (hp : root.getAt tn = some (.dir acc)) :
    placeAt root (tn ++ [m]) dst ch = root.setAt tn (.dir (entPut acc m (Node.overlay dst ch))) := by
  unfold placeAt entPut
  rw [overlay_isSpecial]
  cases hsp : ch.isSpecial with
  | true =>
    simp only [if_true]
    rw [overlay_of_special _ _ hsp, delAt_child root tn m acc hp]
    have hp1 : (root.setAt tn (.dir (entDel acc m))).getAt tn = some (.dir (entDel acc m)) :=
      getAt_setAt_exists root tn _ _ hp
    rw [setAt_child _ tn m _ ch hp1, setAt_setAt_same]
  | false =>
    simp only [Bool.false_eq_true, if_false]
    rw [setAt_child root tn m acc _ hp]

theorem overlayL_fresh : ∀ (ses acc : Entries), ((acc ++ ses).map (·.1)).Nodup → overlayL acc ses = acc ++ ses := by
  intro ses
  induction ses with
  | nil => intro acc _; simp [overlayL]
  | cons e r ih =>
    intro acc h
    obtain ⟨m, ch⟩ := e
    have hm : m ∉ acc.map (·.1) := by
      intro hmm
      simp only [List.map_append, List.map_cons] at h
      exact (List.nodup_append.1 h).2.2 m hmm m List.mem_cons_self rfl
    have hg := entGet_none_of_not_mem acc m hm
    have hp : entPut acc m ch = acc ++ [(m, ch)] := by
      unfold entPut
      rw [entDel_absent _ _ hg, ite_self, entSet_fresh _ _ _ hm]
    rw [overlayL, hg, overlay_none, hp, ih _ (by simpa using h)]
    simp

theorem placeAt_absent (root : Node) (par : List Name) (nm : Name) (pes : Entries) (n : Node)
    (hp : root.getAt par = some (.dir pes)) (hn : root.getAt (par ++ [nm]) = none) :
    placeAt root (par ++ [nm]) none n = root.setAt (par ++ [nm]) n := by
  unfold placeAt
  rw [delAt_absent root par nm pes hp hn, overlay_none, ite_self]

theorem placeAt_dir (root : Node) (tn : List Name) (des : Entries) (es : List (Name × Node)) :
    placeAt root tn (some (.dir des)) (.dir es) = root.setAt tn (.dir (overlayL des es)) := rfl

theorem overlayL_WF (ses : List (Name × Node))
    (H : ∀ e ∈ ses, ∀ dst : Option Node, (∀ x, dst = some x → x.WF) → (Node.overlay dst e.2).WF) :
    ∀ acc : Entries, (acc.map (·.1)).Nodup → (∀ m c, entGet acc m = some c → c.WF) →
      ((overlayL acc ses).map (·.1)).Nodup ∧ ∀ m c, entGet (overlayL acc ses) m = some c → c.WF := by
  induction ses with
  | nil => intro acc h1 h2; simp only [overlayL]; exact ⟨h1, h2⟩
  | cons kv r ih =>
    obtain ⟨k, ch⟩ := kv
    intro acc h1 h2
    simp only [overlayL]
    apply ih (fun e he => H e (List.mem_cons_of_mem _ he)) _ (nodup_keys_entPut _ _ _ h1)
    intro m c hc
    by_cases hkm : k = m
    · subst hkm
      rw [entGet_entPut_self] at hc
      simp only [Option.some.injEq] at hc
      subst hc
      exact H (k, ch) List.mem_cons_self _ (fun x hx => h2 k x hx)
    · rw [entGet_entPut_ne _ _ _ _ hkm] at hc
      exact h2 m c hc

theorem overlay_WF : ∀ (d : Nat) (n : Node), n.Copyable d →
    ∀ dst : Option Node, (∀ x, dst = some x → x.WF) → (Node.overlay dst n).WF := by
  refine copyable_induction (fun n _ hnd _ dst _ => by rw [overlay_nondir _ _ hnd]; exact WF_nondir n hnd) ?_
  intro ses d hndp hch ih dst hdw
  have hw : (Node.dir ses).WF := copyable_WF (d + 1) _ (by simp only [Node.Copyable]; exact ⟨hndp, copyableL_of_mem hch⟩)
  cases dst with
  | none => rw [overlay_none]; exact hw
  | some x =>
    cases x with
    | dir des =>
      show (Node.dir (overlayL des ses)).WF
      have hx := hdw _ rfl
      rw [WF_dir] at hx ⊢
      exact overlayL_WF ses ih des hx.1 hx.2
    | file k => exact hw
    | link t => exact hw
    | special k dv => exact hw

theorem placeAt_getAt_unrelated (root : Node) (t q : List Name) (dst : Option Node) (n : Node)
    (h1 : ¬ t <+: q) (h2 : ¬ q <+: t) : (placeAt root t dst n).getAt q = root.getAt q := by
  unfold placeAt
  split
  · rw [getAt_setAt_unrelated _ _ _ _ h1 h2, getAt_delAt_unrelated _ _ _ h1 h2]
  · rw [getAt_setAt_unrelated _ _ _ _ h1 h2]

theorem placeAt_WF (root : Node) (t : List Name) (dst : Option Node) (n : Node) (hr : root.WF)
    (hv : (Node.overlay dst n).WF) : (placeAt root t dst n).WF := by
  unfold placeAt
  split
  · rename_i hsp
    rw [overlay_of_special dst n hsp] at hv
    exact setAt_WF n hv t _ (delAt_WF t root hr)
  · exact setAt_WF _ hv t root hr

theorem sameObs_placeAt (r : Node) (par : List Name) (nm : Name) (pes : Entries)
    (hp : r.getAt par = some (.dir pes)) (dst : Option Node) (n : Node) :
    SameObs (placeAt r (par ++ [nm]) dst n) (r.setAt (par ++ [nm]) (Node.overlay dst n)) := by
  unfold placeAt
  cases hsp : n.isSpecial with
  | false => simp only [Bool.false_eq_true, if_false]; exact SameObs.refl _
  | true =>
    simp only [if_true]
    rw [overlay_of_special _ _ hsp]
    have hv : n.isDir = false := by
      cases n <;> simp [Node.isSpecial] at hsp
      rfl
    exact sameObs_reset_set r _ n ⟨pes, by rw [List.dropLast_concat]; exact hp⟩ hv

/-- the non-directory nodes of the tree `m` are found in `r` at the same relative paths below `sn`: what the copy
operations of `opsOf m sn tn` read is there.  (`m` may be the tree at `sn` with entries left out.) -/
def ReadsFrom (r : Node) (sn : List Name) (m : Node) : Prop :=
  ∀ rel x, m.getAt rel = some x → x.isDir = false → r.getAt (sn ++ rel) = some x

theorem ReadsFrom.self {r : Node} {sn : List Name} {n : Node} (h : r.getAt sn = some n) : ReadsFrom r sn n := by
  intro rel x hx _
  rw [Node.getAt_append, h]
  exact hx

theorem ReadsFrom.prune {r : Node} {sn : List Name} {n : Node} (ps : List Gi.Pattern)
    (h : r.getAt sn = some n) (hc : n.WF) : ReadsFrom r sn (Node.prune ps [] n) := by
  intro rel x hx hxd
  rw [Node.getAt_append, h]
  exact getAt_prune_leaf ps rel n [] x hc hx hxd

theorem ReadsFrom.leaf {r : Node} {sn : List Name} {m : Node} (h : ReadsFrom r sn m) (hm : m.isDir = false) :
    r.getAt sn = some m := by
  simpa using h [] m (by simp) hm

theorem ReadsFrom.child_setAt {r : Node} {sn : List Name} {es : List (Name × Node)} (h : ReadsFrom r sn (.dir es))
    (hnd : (es.map (·.1)).Nodup) {m : Name} {ch : Node} (hmem : (m, ch) ∈ es)
    {tn : List Name} (hu : L0.Unrel sn tn) (v : Node) :
    ReadsFrom (r.setAt tn v) (sn ++ [m]) ch := by
  intro rel x hx hxd
  have hu' := (hu.ext ([m] ++ rel)).symm
  rw [List.append_assoc, getAt_setAt_unrelated _ _ _ _ hu'.1 hu'.2]
  apply h (m :: rel) x _ hxd
  rw [getAt_dir_cons, entGet_of_mem es hnd (m, ch) hmem]
  exact hx

/-- The entry operation of a file, link or special file `n` read from `sn`, run onto a compatible place: what
`execOp` does, by the kind of `n` and by what the place holds.  If the place holds something, clobbering must be
allowed and the parent must list no name twice (a special file is unlinked and re-created). -/
theorem exec_leaf (c : Cfg) (n : Node) (hnd : n.isDir = false)
    (g : Fs) (sn par : List Name) (nm : Name) (pes : Entries) (rest : List Op)
    (hs : g.root.getAt sn = some n) (hp : g.root.getAt par = some (.dir pes))
    (hex : ∀ x, g.root.getAt (par ++ [nm]) = some x → c.noClobber = false ∧ (pes.map (·.1)).Nodup)
    (hc : Compatible (g.root.getAt (par ++ [nm])) n)
    (hne : sn ≠ par ++ [nm]) (hl1 : sn.length ≤ 256) (hl2 : par.length + 1 < 256) :
    execOps g c (opsOf n sn (par ++ [nm]) ++ rest) =
      execOps { g with root := placeAt g.root (par ++ [nm]) (g.root.getAt (par ++ [nm])) n } c rest := by
  cases hdst : g.root.getAt (par ++ [nm]) with
  | none =>
    rw [placeAt_absent g.root par nm pes n hp hdst]
    cases n with
    | file k => exact execOps_cons_some _ _ _ _ _ (execOp_copy_fresh g c sn par nm k pes hs hl1 (Nat.lt_of_succ_lt hl2) hp hdst)
    | link t => exact execOps_cons_some _ _ _ _ _ (execOp_link_fresh g c t par nm pes (Nat.lt_of_succ_lt hl2) hp hdst)
    | special k dv =>
      exact execOps_cons_some _ _ _ _ _ (execOp_special_fresh g c sn par nm k dv pes hs hl1 (Nat.lt_of_succ_lt hl2) hp hdst)
    | dir es => cases hnd
  | some x =>
    obtain ⟨hn, hpn⟩ := hex x hdst
    rw [hdst] at hc
    cases n with
    | file k =>
      cases x <;> simp [Compatible, Node.compatible] at hc
      rename_i k'
      simp only [opsOf, List.cons_append, List.nil_append]
      rw [execOps_cons_some _ _ _ _ _
        (execOp_copy_over g c sn (par ++ [nm]) k k' hs hdst hne hl1 (by simpa using hl2))]
      simp [placeAt, Node.isSpecial, Node.overlay]
    | link t => cases x <;> simp [Compatible, Node.compatible] at hc
    | special k dv =>
      have hx : x.isDir = false ∧ x.isLink = false := by
        cases x <;> simp [Compatible, Node.compatible] at hc <;> simp [Node.isDir, Node.isLink]
      simp only [opsOf, List.cons_append, List.nil_append]
      rw [execOps_cons_some _ _ _ _ _
        (execOp_special_over g c hn sn par nm k dv pes x hs hp hpn hdst hx.1 hx.2 hne hl1 hl2)]
      simp [placeAt, Node.isSpecial]
    | dir es => cases hnd

/-- The children of a directory, one after the other.  If the operations `ops a` of each child `a` leave `placeAt`
of its node at `tn ++ [nm a]` — whatever else the directory at `tn` lists by then, as long as it lists under `nm a`
what `des` did — then together they turn a directory `acc` at `tn` into `overlayL acc` of the children's nodes.
`hset`: what is written at `tn` is found there, i.e. the parent of `tn` is a directory. -/
theorem exec_children (c : Cfg) (g : Fs) (tn : List Name) (des : Entries)
    (hset : ∀ v, (g.root.setAt tn v).getAt tn = some v)
    {α : Type} (nm : α → Name) (node : α → Node) (ops : α → List Op) (rest : List Op) :
    ∀ (post : List α) (acc : Entries), (acc.map (·.1)).Nodup → (post.map nm).Nodup →
      (∀ a ∈ post, entGet acc (nm a) = entGet des (nm a)) →
      (∀ a ∈ post, ∀ (acc : Entries) (rest : List Op), (acc.map (·.1)).Nodup →
        entGet acc (nm a) = entGet des (nm a) →
        execOps { g with root := g.root.setAt tn (.dir acc) } c (ops a ++ rest) =
          execOps { g with root := (placeAt (g.root.setAt tn (.dir acc)) (tn ++ [nm a])
            ((g.root.setAt tn (.dir acc)).getAt (tn ++ [nm a])) (node a)) } c rest) →
      execOps { g with root := g.root.setAt tn (.dir acc) } c (post.flatMap ops ++ rest) =
        execOps { g with root := g.root.setAt tn (.dir (overlayL acc (post.map fun a => (nm a, node a)))) } c
          rest := by
  intro post
  induction post with
  | nil => intro acc _ _ _ _; simp [overlayL]
  | cons a post' ihp =>
    intro acc hna hnp hag step
    simp only [List.map_cons, List.nodup_cons] at hnp
    have hp' : (g.root.setAt tn (.dir acc)).getAt tn = some (.dir acc) := hset _
    rw [List.flatMap_cons, List.append_assoc,
      step a List.mem_cons_self acc (post'.flatMap ops ++ rest) hna (hag a List.mem_cons_self),
      placeAt_child _ tn (nm a) acc _ (node a) hp', setAt_setAt_same, getAt_child _ _ (nm a) _ hp']
    simp only [List.map_cons, overlayL]
    apply ihp _ (nodup_keys_entPut _ _ _ hna) hnp.2 _ (fun b hb => step b (List.mem_cons_of_mem _ hb))
    intro b hb
    have hne : nm a ≠ nm b := fun h => hnp.1 (h ▸ List.mem_map.2 ⟨b, hb, rfl⟩)
    rw [entGet_entPut_ne _ _ _ _ hne]
    exact hag b (List.mem_cons_of_mem _ hb)

/-- A directory onto a compatible place `par ++ [nm]`: after `mkdir` the place holds a directory `des` — the one that
was there, or a new, empty one —, and the entries are run into it one after the other (`exec_children`).  `step` is
what is asked of one entry; a place it finds occupied was there before the `mkdir`. -/
theorem exec_dir (c : Cfg) (g : Fs) (par : List Name) (nm : Name) (pes : Entries)
    (hp : g.root.getAt par = some (.dir pes)) (hpl : par.length + 1 < 256)
    {α : Type} (key : α → Name) (node : α → Node) (ops : α → List Op) (rest : List Op) (items : List α)
    (hnd : (items.map key).Nodup) (hw : ∀ x, g.root.getAt (par ++ [nm]) = some x → x.WF)
    (hc : Compatible (g.root.getAt (par ++ [nm])) (.dir (items.map fun a => (key a, node a))))
    (step : ∀ a ∈ items, ∀ (acc : Entries) (rest' : List Op), (acc.map (·.1)).Nodup →
      (∀ x, (g.root.setAt (par ++ [nm]) (.dir acc)).getAt (par ++ [nm] ++ [key a]) = some x →
        x.WF ∧ ∃ y, g.root.getAt (par ++ [nm]) = some y) →
      Compatible ((g.root.setAt (par ++ [nm]) (.dir acc)).getAt (par ++ [nm] ++ [key a])) (node a) →
      execOps { g with root := g.root.setAt (par ++ [nm]) (.dir acc) } c (ops a ++ rest') =
        execOps { g with root := (placeAt (g.root.setAt (par ++ [nm]) (.dir acc)) (par ++ [nm] ++ [key a])
          ((g.root.setAt (par ++ [nm]) (.dir acc)).getAt (par ++ [nm] ++ [key a])) (node a)) } c rest') :
    execOps g c (.mkdir (plainPath (par ++ [nm])) :: (items.flatMap ops ++ rest)) =
      execOps { g with root := (placeAt g.root (par ++ [nm]) (g.root.getAt (par ++ [nm]))
        (.dir (items.map fun a => (key a, node a)))) } c rest := by
  have hset : ∀ v, (g.root.setAt (par ++ [nm]) v).getAt (par ++ [nm]) = some v :=
    fun v => getAt_setAt_child v nm par g.root pes hp
  have hnd' : ((items.map fun a => (key a, node a)).map (·.1)).Nodup := by
    rw [List.map_map]
    exact hnd
  obtain ⟨des, hmk, hwd, hcd, hold, hov⟩ : ∃ des,
      execOp g c (.mkdir (plainPath (par ++ [nm]))) =
        some { g with root := g.root.setAt (par ++ [nm]) (.dir des) } ∧
      (Node.dir des).WF ∧ compatibleL des (items.map fun a => (key a, node a)) = true ∧
      (des ≠ [] → ∃ y, g.root.getAt (par ++ [nm]) = some y) ∧
      placeAt g.root (par ++ [nm]) (g.root.getAt (par ++ [nm])) (.dir (items.map fun a => (key a, node a))) =
        g.root.setAt (par ++ [nm]) (.dir (overlayL des (items.map fun a => (key a, node a)))) := by
    cases hdst : g.root.getAt (par ++ [nm]) with
    | none =>
      refine ⟨[], execOp_mkdir_fresh g c par nm pes (Nat.lt_of_succ_lt hpl) hp hdst, WF_emptyDir, compatibleL_nil _,
        fun h => absurd rfl h, ?_⟩
      rw [placeAt_absent g.root par nm pes _ hp hdst, overlayL_fresh _ [] hnd']
      rfl
    | some x =>
      obtain ⟨des, rfl, hcd⟩ := compatible_dir (hdst ▸ hc)
      refine ⟨des, ?_, hw _ hdst, hcd, fun _ => ⟨_, rfl⟩, placeAt_dir _ _ _ _⟩
      have hlt : (par ++ [nm]).length < 256 := by
        rw [List.length_append]
        exact hpl
      rw [execOp_mkdir_over g c (par ++ [nm]) des hdst hlt, setAt_same _ _ _ hdst]
  rw [hov, execOps_cons_some _ _ _ _ _ hmk]
  rw [WF_dir] at hwd
  refine exec_children c g (par ++ [nm]) des hset key node ops rest items des hwd.1 hnd (fun _ _ => rfl) ?_
  intro a ha acc rest' hna hag
  have hda : (g.root.setAt (par ++ [nm]) (.dir acc)).getAt (par ++ [nm] ++ [key a]) = entGet acc (key a) :=
    getAt_child _ _ (key a) _ (hset _)
  refine step a ha acc rest' hna ?_ ?_
  · intro x hx
    rw [hda, hag] at hx
    exact ⟨hwd.2 _ x hx, hold (fun h => by rw [h] at hx; cases hx)⟩
  · rw [hda, hag]
    exact compatibleL_mem hcd (key a, node a) (List.mem_map.2 ⟨a, ha, rfl⟩)

/-- Running the operations of a copyable tree `n`, whose leaves are found below `sn`, towards a compatible place
`par ++ [nm]` below an existing directory and unrelated to `sn` leaves exactly `placeAt` there.  If the place holds
something, clobbering must be allowed and the parent and what is there must list no name twice. -/
theorem exec_place (c : Cfg) :
    ∀ (d : Nat) (n : Node), n.Copyable d →
      ∀ (g : Fs) (sn par : List Name) (nm : Name) (pes : Entries) (rest : List Op),
      ReadsFrom g.root sn n → g.root.getAt par = some (.dir pes) →
      (∀ x, g.root.getAt (par ++ [nm]) = some x → c.noClobber = false ∧ (pes.map (·.1)).Nodup ∧ x.WF) →
      Compatible (g.root.getAt (par ++ [nm])) n →
      L0.Unrel sn (par ++ [nm]) → sn.length + d < 256 → par.length + 1 + d < 256 →
      execOps g c (opsOf n sn (par ++ [nm]) ++ rest) =
        execOps { g with root := placeAt g.root (par ++ [nm]) (g.root.getAt (par ++ [nm])) n } c rest := by
  refine copyable_induction ?_ ?_
  · intro n d hnd _ g sn par nm pes rest hsrc hp hex hc hu hl1 hl2
    exact exec_leaf c n hnd g sn par nm pes rest (hsrc.leaf hnd) hp (fun x hx => ⟨(hex x hx).1, (hex x hx).2.1⟩)
      hc (fun e => hu.1 (e ▸ List.prefix_refl _)) (Nat.le_of_lt (Nat.lt_of_add_right_lt hl1)) (Nat.lt_of_add_right_lt hl2)
  · intro es d hndp _ ih g sn par nm pes rest hsrc hp hex hc hu hl1 hl2
    rw [opsOf, List.cons_append, opsOfL_eq_flatMap]
    have h := exec_dir c g par nm pes hp (Nat.lt_of_add_right_lt hl2) (·.1) (·.2)
      (fun e => opsOf e.2 (sn ++ [e.1]) (par ++ [nm] ++ [e.1])) rest es hndp (fun x hx => (hex x hx).2.2)
      (by rw [List.map_id']; exact hc) ?_
    · rw [List.map_id'] at h
      exact h
    intro e hmem acc rest' hna hwx hcx
    refine ih e hmem { g with root := g.root.setAt (par ++ [nm]) (.dir acc) } (sn ++ [e.1]) (par ++ [nm]) e.1 acc rest'
      (hsrc.child_setAt hndp hmem hu _) (getAt_setAt_child _ nm par g.root pes hp) ?_ hcx (hu.child e.1)
      (length_child_lt sn e.1 hl1) (length_child_lt' par nm hl2)
    intro x hx
    obtain ⟨hwf, y, hy⟩ := hwx x hx
    exact ⟨(hex y hy).1, hna, hwf⟩

/-- what the single-source theorems assume of the file system, the source (a plain path designating the copyable
tree `srcNode`) and the target base (a plain path other than the root, below an existing directory, unrelated to the
source).  `len`: resolving a path spends one unit of `resolveFuel = 256` per name, and the deepest path touched is
`fuel` names below source or target.  The end theorems ask for `< 200`, a round number below that; `of_hyps` weakens it. -/
structure CopySetup (fs : Fs) (src tb : RPath) (srcNode : Node) (fuel : Nat) : Prop where
  wf : FsEq fs fs
  srcPlain : PlainTarget fs src
  node : fs.root.getAt src.names = some srcNode
  cop : srcNode.Copyable fuel
  tbPlain : PlainTarget fs tb
  ne : tb.names ≠ []
  par : ParentDir fs.root tb.names
  un : L0.Unrel src.names tb.names
  len : src.names.length + fuel < 256 ∧ tb.names.length + fuel < 256

theorem CopySetup.parent {fs : Fs} {src tb : RPath} {srcNode : Node} {fuel : Nat}
    (H : CopySetup fs src tb srcNode fuel) :
    ∃ par nm pes, tb.names = par ++ [nm] ∧ fs.root.getAt par = some (.dir pes) := by
  obtain ⟨pes, hpes⟩ := H.par
  rcases List.eq_nil_or_concat tb.names with h0 | ⟨par, nm, h0⟩
  · exact absurd h0 H.ne
  · simp only [List.concat_eq_append] at h0
    rw [h0, List.dropLast_concat] at hpes
    exact ⟨par, nm, pes, h0, hpes⟩

/-- The state after the run, exactly: the walk with patterns `ps` (no dereference) runs without failure and leaves
`placeAt` of the pruned source tree at the target.  The target may exist if clobbering is allowed and what is
there is compatible with the pruned tree. -/
theorem overlay_exact {fs : Fs} {src tb : RPath} {srcNode : Node} {fuel : Nat} (H : CopySetup fs src tb srcNode fuel)
    (c : Cfg) (hd : c.dereference = false) (hn : c.noClobber = false ∨ fs.root.getAt tb.names = none)
    (ps : List Gi.Pattern) (hcompat : Compatible (fs.root.getAt tb.names) (Node.prune ps [] srcNode)) :
    execOps fs c (walkEntry fs c (some ps) src tb (fuel + 1) [] []) =
      ⟨.ok, { fs with root := placeAt fs.root tb.names (fs.root.getAt tb.names) (Node.prune ps [] srcNode) }⟩ := by
  obtain ⟨par, nm, pes, h0, hpes⟩ := H.parent
  have hlen := H.len
  have hshape := walk_root_gi fs c ps hd src.names tb.names
    (hn.imp id (fun habs => absent_below fs tb.names habs H.par)) H.cop H.node (H.srcPlain.not_link H.node) hlen.1
  rw [← plainTarget_eq fs src H.srcPlain, ← plainTarget_eq fs tb H.tbPlain] at hshape
  rw [hshape]
  have hexec := exec_place c fuel _ (copyable_prune ps fuel srcNode H.cop []) fs src.names par nm pes []
    (.prune ps H.node (copyable_WF _ _ H.cop)) hpes
    -- if the target holds `x` it is not absent, so clobbering is allowed; the parent and `x` are well-formed
    (fun x hx => ⟨hn.resolve_right (by rw [h0, hx]; exact fun h => nomatch h), H.wf.2.1 par pes hpes,
      fun q es hq => H.wf.2.1 (par ++ [nm] ++ q) es (by rw [Node.getAt_append, hx]; exact hq)⟩)
    (h0 ▸ hcompat) (h0 ▸ H.un) hlen.1
    (by have := hlen.2; rw [h0] at this; simpa [Nat.add_assoc] using this)
  rw [List.append_nil, ← h0] at hexec
  rw [hexec]
  rfl

/-- a well-formed state that is `placeAt` is, up to the order of directory entries, the overlaid one (the trees are
equal unless `n` is a special file replacing an existing entry, which moves to the end of its parent's listing) -/
theorem fsEq_placeAt {fs : Fs} (hwf : fs.root.WF) {tn : List Name} (hpar : ParentDir fs.root tn)
    (n : Node) (hwf' : (placeAt fs.root tn (fs.root.getAt tn) n).WF) :
    FsEq { fs with root := placeAt fs.root tn (fs.root.getAt tn) n }
      { fs with root := fs.root.setAt tn (Node.overlay (fs.root.getAt tn) n) } := by
  cases hsp : n.isSpecial with
  | false =>
    have e : placeAt fs.root tn (fs.root.getAt tn) n = fs.root.setAt tn (Node.overlay (fs.root.getAt tn) n) := by
      simp [placeAt, hsp]
    rw [e] at hwf' ⊢
    exact ⟨rfl, hwf', hwf', fun _ => rfl⟩
  | true =>
    have hv : n.isDir = false := by
      cases n <;> simp [Node.isSpecial] at hsp
      rfl
    have e : placeAt fs.root tn (fs.root.getAt tn) n = (fs.root.delAt tn).setAt tn n := by
      simp [placeAt, hsp]
    rw [e] at hwf' ⊢
    rw [overlay_of_special _ _ hsp]
    exact ⟨rfl, hwf', setAt_WF n (WF_nondir _ hv) _ _ hwf, sameObs_reset_set fs.root tn n hpar hv⟩

/-- the setup from the hypotheses as the end theorems spell them (bounds `< 200`; `_hroot` is implied by `hpar`) -/
theorem CopySetup.of_hyps {fs : Fs} {src tb : RPath} {srcNode : Node} {fuel : Nat}
    (hwf : FsEq fs fs) (_hroot : fs.root.isDir = true) (hsrc : PlainTarget fs src)
    (hsn : fs.root.getAt src.names = some srcNode)
    (hcop : srcNode.Copyable fuel) (htb : PlainTarget fs tb) (hne : tb.names ≠ [])
    (hpar : ParentDir fs.root tb.names)
    (hun1 : ¬ src.names <+: tb.names) (hun2 : ¬ tb.names <+: src.names)
    (hlen : src.names.length + fuel < 200 ∧ tb.names.length + fuel < 200) : CopySetup fs src tb srcNode fuel :=
  ⟨hwf, hsrc, hsn, hcop, htb, hne, hpar, ⟨hun1, hun2⟩, Nat.lt_trans hlen.1 (by decide), Nat.lt_trans hlen.2 (by decide)⟩

/-- No dereference, clobbering allowed (`c`); source and target as in `CopySetup`; the target may exist, provided
what is there is `Compatible` with the pruned source tree.  Then the sequential execution of the walk's operations
succeeds and the resulting tree is the old one with the target overlaid with the pruned source tree — up to the order
of directory entries (`FsEq`). -/
theorem gitignore_overlay {fs : Fs} {src tb : RPath} {srcNode : Node} {fuel : Nat} (H : CopySetup fs src tb srcNode fuel)
    (c : Cfg) (hd : c.dereference = false) (hn : c.noClobber = false ∨ fs.root.getAt tb.names = none)
    (ps : List Gi.Pattern) (hcompat : Compatible (fs.root.getAt tb.names) (Node.prune ps [] srcNode)) :
    ∃ fs', execOps fs c (walkEntry fs c (some ps) src tb (fuel + 1) [] []) = ⟨.ok, fs'⟩ ∧
      FsEq fs' { fs with
        root := fs.root.setAt tb.names (Node.overlay (fs.root.getAt tb.names) (Node.prune ps [] srcNode)) } := by
  have hrun := overlay_exact H c hd hn ps hcompat
  exact ⟨_, hrun, fsEq_placeAt H.wf.2.1 H.par _ (execOps_wf c _ fs _ H.wf hrun).2.1⟩

/-- `gitignore_overlay` without patterns: the resulting tree is the old one with the target overlaid with `srcNode` -/
theorem mirror_overlay {fs : Fs} {src tb : RPath} {srcNode : Node} {fuel : Nat} (H : CopySetup fs src tb srcNode fuel)
    (c : Cfg) (hd : c.dereference = false) (hn : c.noClobber = false ∨ fs.root.getAt tb.names = none)
    (hcompat : Compatible (fs.root.getAt tb.names) srcNode) :
    ∃ fs', execOps fs c (walkEntry fs c none src tb (fuel + 1) [] []) = ⟨.ok, fs'⟩ ∧
      FsEq fs' { fs with root := fs.root.setAt tb.names (Node.overlay (fs.root.getAt tb.names) srcNode) } := by
  have h := gitignore_overlay H c hd hn [] (by rw [prune_nil]; exact hcompat)
  rw [prune_nil, ← walkEntry_none] at h
  exact h

/-- … and with an absent target: the resulting tree is the old one with `srcNode` placed at `tb` -/
theorem mirror_fresh {fs : Fs} {src tb : RPath} {srcNode : Node} {fuel : Nat} (H : CopySetup fs src tb srcNode fuel)
    (c : Cfg) (hd : c.dereference = false) (hn : c.noClobber = false) (habs : fs.root.getAt tb.names = none) :
    ∃ fs', execOps fs c (walkEntry fs c none src tb (fuel + 1) [] []) = ⟨.ok, fs'⟩ ∧
      FsEq fs' { fs with root := fs.root.setAt tb.names srcNode } := by
  have h := mirror_overlay H c hd (.inl hn) (by rw [habs]; exact compatible_none _)
  rw [habs, overlay_none] at h
  exact h

theorem mirror_fresh_of_overlay (fs : Fs) (c : Cfg) (hd : c.dereference = false) (hn : c.noClobber = false)
    (src tb : RPath) (srcNode : Node) (fuel : Nat)
    (hwf : FsEq fs fs) (hroot : fs.root.isDir = true)
    (hsrc : PlainTarget fs src) (hsn : fs.root.getAt src.names = some srcNode)
    (hcop : srcNode.Copyable fuel)
    (htb : PlainTarget fs tb) (hne : tb.names ≠ []) (habs : fs.root.getAt tb.names = none)
    (hpar : ∃ es, fs.root.getAt tb.names.dropLast = some (.dir es))
    (hun1 : ¬ src.names <+: tb.names) (hun2 : ¬ tb.names <+: src.names)
    (hlen : src.names.length + fuel < 200 ∧ tb.names.length + fuel < 200) :
    ∃ fs', execOps fs c (walkEntry fs c none src tb (fuel + 1) [] []) = ⟨.ok, fs'⟩ ∧
      FsEq fs' { fs with root := fs.root.setAt tb.names srcNode } :=
  mirror_fresh (.of_hyps hwf hroot hsrc hsn hcop htb hne hpar hun1 hun2 hlen) c hd hn habs

theorem overlay_keeps_entry (root : Node) (tn : List Name) (des ses : Entries) (m : Name) (q : List Name)
    (hdst : root.getAt tn = some (.dir des)) (hm : m ∉ ses.map (·.1)) :
    (root.setAt tn (Node.overlay (some (.dir des)) (.dir ses))).getAt (tn ++ m :: q) =
      root.getAt (tn ++ m :: q) := by
  rw [Node.getAt_append, getAt_setAt_exists _ _ _ _ hdst, Node.getAt_append, hdst]
  simp [Node.overlay, getAt_dir_cons, entGet_overlayL_notin m ses des hm]

/-! ## The definitions evaluate (kernel reduction): an instance

The destination directory lists `1`, `2`, `3`; the source lists `2` (a fifo), `4`, `1`.  `1` is rewritten in place,
`3` is kept, the fifo replaces the regular file `2` and moves to the end, `4` is appended. -/

example : Node.overlay (some (.dir [([1], .file 0), ([2], .file 5), ([3], .dir [])]))
      (.dir [([2], .special .fifo 0), ([4], .file 7), ([1], .file 9)])
    = .dir [([1], .file 9), ([3], .dir []), ([2], .special .fifo 0), ([4], .file 7)] := by rfl

example : Compatible (some (.dir [([1], .file 0), ([2], .file 5), ([3], .dir [])]))
    (.dir [([2], .special .fifo 0), ([4], .file 7), ([1], .file 9)]) := by decide

/-- a regular file onto an existing symbolic link (F13) is not a compatible pair -/
example : ¬ Compatible (some (.dir [([1], .link ⟨true, [], false⟩)])) (.dir [([1], .file 9)]) := by decide

/-! With `--gitignore` and a fresh destination.  The flag the filter sees is `Node.isDir` of the entry's node (see
`Prune`); the hypotheses on excluded entries are stated both ways where it matters (`Node.isDir` of the node in the
tree; `giIsDir` as the walker computes it). -/

/-- The absent target of `gitignore_overlay`: the resulting tree is the old one with the pruned source tree placed
at `tb` (up to the order of directory entries): the source tree minus exactly the entries the walker's test excludes
(with everything below them); nothing else is touched. -/
theorem mirror_fresh_gitignore {fs : Fs} {src tb : RPath} {srcNode : Node} {fuel : Nat}
    (H : CopySetup fs src tb srcNode fuel) (c : Cfg) (hd : c.dereference = false) (hn : c.noClobber = false)
    (ps : List Gi.Pattern) (habs : fs.root.getAt tb.names = none) :
    ∃ fs', execOps fs c (walkEntry fs c (some ps) src tb (fuel + 1) [] []) = ⟨.ok, fs'⟩ ∧
      FsEq fs' { fs with root := fs.root.setAt tb.names (Node.prune ps [] srcNode) } := by
  have h := gitignore_overlay H c hd (.inl hn) ps (by rw [habs]; exact compatible_none _)
  rw [habs, overlay_none] at h
  exact h

/-- In a state observed like the old tree with the pruned source at `T`, an entry of the source tree
(at any depth: `rel ++ [m]` below the source root) that the patterns exclude is absent, with everything below it —
even entries that a later negated pattern would re-include -/
theorem excluded_absent (ps : List Gi.Pattern) {r r' : Node} {T : List Name} {srcNode : Node} {fuel : Nat}
    (heq : SameObs r' (r.setAt T (Node.prune ps [] srcNode)))
    (hcop : srcNode.Copyable fuel) (hpar : ParentDir r T)
    (rel : List Name) (m : Name) (ch : Node) (below : List Name)
    (hch : srcNode.getAt (rel ++ [m]) = some ch) (hx : Gi.keeps ps (rel ++ [m]) ch.isDir = false) :
    r'.getAt (T ++ (rel ++ [m]) ++ below) = none := by
  have hso := heq (T ++ (rel ++ [m]) ++ below)
  simp only [obsAt] at hso
  rw [List.append_assoc, getAt_setAt_below r T _ hpar,
    getAt_prune_excluded ps srcNode (copyable_WF _ _ hcop) [] rel m ch below hch (by simpa using hx), ← List.append_assoc] at hso
  exact Option.map_eq_none_iff.1 hso

/-- With the flag as the walker computes it (`giIsDir`): a child `m` of the source root that the
patterns exclude is not at the destination -/
theorem excluded_child_absent (fs : Fs) (c : Cfg) (hd : c.dereference = false) (hn : c.noClobber = false)
    (ps : List Gi.Pattern)
    (src tb : RPath) (srcNode : Node) (fuel : Nat)
    (hwf : FsEq fs fs) (hroot : fs.root.isDir = true)
    (hsrc : PlainTarget fs src) (hsn : fs.root.getAt src.names = some srcNode)
    (hcop : srcNode.Copyable fuel)
    (htb : PlainTarget fs tb) (hne : tb.names ≠ []) (habs : fs.root.getAt tb.names = none)
    (hpar : ∃ es, fs.root.getAt tb.names.dropLast = some (.dir es))
    (hun1 : ¬ src.names <+: tb.names) (hun2 : ¬ tb.names <+: src.names)
    (hlen : src.names.length + fuel < 200 ∧ tb.names.length + fuel < 200)
    (m : Name) (ch : Node) (hch : srcNode.getAt [m] = some ch)
    (hx : Gi.keeps ps [m] (giIsDir fs c (relJoin src [m])) = false) :
    ∃ fs', execOps fs c (walkEntry fs c (some ps) src tb (fuel + 1) [] []) = ⟨.ok, fs'⟩ ∧
      fs'.root.getAt (tb.names ++ [m]) = none ∧ obsAt fs'.root (tb.names ++ [m]) = none := by
  -- the walker's flag for `m` is the type of the node `ch`
  have hget : fs.root.getAt (src.names ++ [m]) = some ch := by rw [Node.getAt_append, hsn]; exact hch
  have hls := lstat_of_getAt fs (src.names ++ [m]) ch
    (le_256_of_lt (by rw [List.length_append]; exact Nat.lt_trans (Nat.succ_lt_succ (Nat.lt_of_add_right_lt hlen.1)) (by decide)))
    hget
  rw [← relJoin_plain, ← plainTarget_eq fs src hsrc] at hls
  rw [giIsDir_of_lstat fs c hd _ _ _ hls] at hx
  obtain ⟨fs', hex, heq⟩ := mirror_fresh_gitignore (.of_hyps hwf hroot hsrc hsn hcop htb hne hpar hun1 hun2 hlen) c hd hn ps
    habs
  have hno : fs'.root.getAt (tb.names ++ [m]) = none := by
    simpa using excluded_absent ps heq.2.2.2 hcop hpar [] m ch [] (by simpa using hch) (by simpa using hx)
  exact ⟨fs', hex, hno, by simp [obsAt, hno]⟩

/-- With no pattern lines nothing is pruned (`prune_nil`), so `--gitignore` with an empty (or missing) .gitignore
mirrors the whole source tree, as without the option -/
theorem mirror_fresh_gitignore_nil (fs : Fs) (c : Cfg) (hd : c.dereference = false) (hn : c.noClobber = false)
    (src tb : RPath) (srcNode : Node) (fuel : Nat)
    (hwf : FsEq fs fs) (hroot : fs.root.isDir = true)
    (hsrc : PlainTarget fs src) (hsn : fs.root.getAt src.names = some srcNode)
    (hcop : srcNode.Copyable fuel)
    (htb : PlainTarget fs tb) (hne : tb.names ≠ []) (habs : fs.root.getAt tb.names = none)
    (hpar : ∃ es, fs.root.getAt tb.names.dropLast = some (.dir es))
    (hun1 : ¬ src.names <+: tb.names) (hun2 : ¬ tb.names <+: src.names)
    (hlen : src.names.length + fuel < 200 ∧ tb.names.length + fuel < 200) :
    ∃ fs', execOps fs c (walkEntry fs c (some []) src tb (fuel + 1) [] []) = ⟨.ok, fs'⟩ ∧
      FsEq fs' { fs with root := fs.root.setAt tb.names srcNode } := by
  have h := mirror_fresh_gitignore (.of_hyps hwf hroot hsrc hsn hcop htb hne hpar hun1 hun2 hlen) c hd hn [] habs
  rw [prune_nil] at h
  exact h

theorem mirror_fresh_gitignore_of_overlay (fs : Fs) (c : Cfg) (hd : c.dereference = false)
    (hn : c.noClobber = false) (ps : List Gi.Pattern)
    (src tb : RPath) (srcNode : Node) (fuel : Nat)
    (hwf : FsEq fs fs) (hroot : fs.root.isDir = true)
    (hsrc : PlainTarget fs src) (hsn : fs.root.getAt src.names = some srcNode)
    (hcop : srcNode.Copyable fuel)
    (htb : PlainTarget fs tb) (hne : tb.names ≠ []) (habs : fs.root.getAt tb.names = none)
    (hpar : ∃ es, fs.root.getAt tb.names.dropLast = some (.dir es))
    (hun1 : ¬ src.names <+: tb.names) (hun2 : ¬ tb.names <+: src.names)
    (hlen : src.names.length + fuel < 200 ∧ tb.names.length + fuel < 200) :
    ∃ fs', execOps fs c (walkEntry fs c (some ps) src tb (fuel + 1) [] []) = ⟨.ok, fs'⟩ ∧
      FsEq fs' { fs with root := fs.root.setAt tb.names (Node.prune ps [] srcNode) } :=
  mirror_fresh_gitignore (.of_hyps hwf hroot hsrc hsn hcop htb hne hpar hun1 hun2 hlen) c hd hn ps habs

end Xcp
