/-! The trace monitor of the pool models as a proposition over any event type, and the invariant that carries it:
a handle that was finalised has no holder left.  `XcpModel/Pool.lean` and `XcpModel/PoolF.lean` each have an event
type and a Boolean `writesBeforeFinalise` of their own; `mon_iff_of` connects them with `Mon`. -/
namespace Xcp

variable {ε : Type} {fin wr : ε → Option Nat}

/-- `fin e = some h`: the event `e` finalises or fsyncs handle `h`; `wr e = some h`: it writes data of `h`.
No write of a handle follows its finalisation or its fsync. -/
def Mon (fin wr : ε → Option Nat) : List ε → Prop
  | [] => True
  | e :: r => (∀ h, fin e = some h → ∀ w ∈ r, wr w ≠ some h) ∧ Mon fin wr r

theorem mon_append (a b : List ε) : Mon fin wr (a ++ b) ↔
    Mon fin wr a ∧ Mon fin wr b ∧ ∀ e ∈ a, ∀ h, fin e = some h → ∀ w ∈ b, wr w ≠ some h := by
  induction a with
  | nil => simp [Mon]
  | cons x a ih =>
    simp only [List.cons_append, Mon, ih, List.mem_append, List.forall_mem_cons]
    constructor
    · rintro ⟨h1, h2, h3, h4⟩
      exact ⟨⟨fun h hf w hw => h1 h hf w (.inl hw), h2⟩, h3, fun h hf w hw => h1 h hf w (.inr hw), h4⟩
    · rintro ⟨⟨h1, h2⟩, h3, h4, h5⟩
      exact ⟨fun h hf w hw => hw.elim (h1 h hf w) (h4 h hf w), h2, h3, h5⟩

theorem mon_of_no_wr : ∀ (l : List ε), (∀ w ∈ l, wr w = none) → Mon fin wr l
  | [], _ => trivial
  | _ :: r, h =>
    ⟨fun _ _ w hw e => (nomatch (h w (List.mem_cons_of_mem _ hw)).symm.trans e),
      mon_of_no_wr r fun w hw => h w (List.mem_cons_of_mem _ hw)⟩

theorem mon_singleton (e : ε) : Mon fin wr [e] := by
  simp [Mon]

theorem mon_map {α : Type} (f : α → ε) (l : List α) : Mon fin wr (l.map f) ↔ Mon (fin ∘ f) (wr ∘ f) l := by
  induction l with
  | nil => rfl
  | cons a l ih => simp [Mon, ih]

/-- a Boolean monitor with these three equations decides `Mon` -/
theorem mon_iff_of (wbf : List ε → Bool) (hnil : wbf [] = true)
    (hfin : ∀ e h r, fin e = some h → (wbf (e :: r) = true ↔ (∀ w ∈ r, wr w ≠ some h) ∧ wbf r = true))
    (hoth : ∀ e r, fin e = none → wbf (e :: r) = wbf r) : ∀ l, wbf l = true ↔ Mon fin wr l
  | [] => by simp [hnil, Mon]
  | e :: r => by
    cases hf : fin e with
    | none => simp [hoth e r hf, Mon, hf, mon_iff_of wbf hnil hfin hoth r]
    | some h => simp [hfin e h r hf, Mon, hf, mon_iff_of wbf hnil hfin hoth r]

/-- `refs h` = number of holders of handle `h`, `next` = the next handle to be opened: a handle finalised in the log
has no holder and is below `next`, and the log satisfies the monitor -/
structure Dead (fin wr : ε → Option Nat) (refs : Nat → Nat) (next : Nat) (log : List ε) : Prop where
  dead : ∀ e ∈ log, ∀ h, fin e = some h → refs h = 0 ∧ h < next
  mon : Mon fin wr log

variable {refs refs' : Nat → Nat} {next next' : Nat} {log : List ε}

theorem Dead.mono (d : Dead fin wr refs next log)
    (hkeep : ∀ h, refs h = 0 → h < next → refs' h = 0 ∧ h < next') : Dead fin wr refs' next' log :=
  ⟨fun e he h hf => hkeep h (d.dead e he h hf).1 (d.dead e he h hf).2, d.mon⟩

/-- `Dead` survives appending events `es` that satisfy the monitor among themselves, write only handles that are held,
and finalise only handles that then have no holder — while no dead handle gets a holder again -/
theorem Dead.append (d : Dead fin wr refs next log)
    (es : List ε) (hmon : Mon fin wr es) (hwr : ∀ w ∈ es, ∀ h, wr w = some h → 0 < refs h)
    (hfin : ∀ e ∈ es, ∀ h, fin e = some h → refs' h = 0 ∧ h < next')
    (hkeep : ∀ h, refs h = 0 → h < next → refs' h = 0 ∧ h < next') : Dead fin wr refs' next' (log ++ es) := by
  refine ⟨fun e he h hf => ?_, (mon_append log es).mpr ⟨d.mon, hmon, fun e he h hf w hw hwh => ?_⟩⟩
  · rcases List.mem_append.mp he with he | he
    · exact hkeep h (d.dead e he h hf).1 (d.dead e he h hf).2
    · exact hfin e he h hf
  · exact Nat.ne_of_gt (hwr w hw h hwh) (d.dead e he h hf).1

theorem Dead.append_nw (d : Dead fin wr refs next log)
    (es : List ε) (hnw : ∀ w ∈ es, wr w = none)
    (hfin : ∀ e ∈ es, ∀ h, fin e = some h → refs' h = 0 ∧ h < next')
    (hkeep : ∀ h, refs h = 0 → h < next → refs' h = 0 ∧ h < next') : Dead fin wr refs' next' (log ++ es) :=
  d.append es (mon_of_no_wr es hnw) (fun w hw _ e => nomatch (hnw w hw).symm.trans e) hfin hkeep

theorem Dead.snoc_plain (d : Dead fin wr refs next log) (e : ε)
    (hw : wr e = none) (hf : fin e = none) : Dead fin wr refs next (log ++ [e]) :=
  d.append_nw [e] (by simp [hw]) (by simp [hf]) (fun _ h0 hl => ⟨h0, hl⟩)

end Xcp
