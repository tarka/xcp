import XcpProofs.Clash
import XcpProofs.MirrorExample
/-! # Non-vacuity of `clash_fails`

A concrete instance satisfying every hypothesis of `clash_fails` at once (`exSetup`, `exDst`, `clash`): the root holds
`S` = { file `a`, directory `sub` = { file `b` } } and `D` = { `S` = { file `keep`, file `sub` } }; the source is `/S`,
the target base `/D/S`.  One level down the source directory `sub` meets the destination regular file `sub`, after the
sibling `a`, which is copied successfully.  The run fails — once as an application of `clash_fails`, once by
evaluation of the model — and the failed run leaves the other entries of the destination as they were. -/
namespace Xcp.ClashExample

open Xcp Xcp.MirrorExample L0

def nkeep : Name := [107, 101, 101, 112]

/-- the source tree `/S` -/
def srcN : Node := .dir [(na, .file 1), (nsub, .dir [(nb, .file 2)])]
/-- what is at the target base `/D/S` already -/
def dstN : Node := .dir [(nkeep, .file 7), (nsub, .file 9)]
def DN : Node := .dir [(nS, dstN)]
def exRoot : Node := .dir [(nS, srcN), (nD, DN)]
def exFs : Fs := ⟨exRoot, []⟩
def src : RPath := plainPath [nS]
def tb : RPath := plainPath [nD, nS]
def fuel : Nat := 2

theorem exFs_wf : FsEq exFs exFs := by
  have h : exRoot.Copyable 4 := by
    simp [exRoot, srcN, DN, dstN, Node.Copyable, Node.Copyable.CopyableL, nS, nD, na, nsub, nb, nkeep]
  exact ⟨rfl, copyable_WF 4 _ h, copyable_WF 4 _ h, SameObs.refl _⟩

theorem getS : exFs.root.getAt [nS] = some srcN := rfl
theorem getD : exFs.root.getAt [nD] = some DN := rfl
theorem getDS : exFs.root.getAt [nD, nS] = some dstN := rfl

theorem src_names : src.names = [nS] := plainPath_names _
theorem tb_names : tb.names = [nD, nS] := plainPath_names _

theorem src_plain : PlainTarget exFs src := by
  refine ⟨rfl, rfl, (plainPath_namesOnly _).2.2, ?_⟩
  rw [src_names]
  exact noLinkUpto_of_getAt getS rfl

theorem tb_plain : PlainTarget exFs tb := by
  refine ⟨rfl, rfl, (plainPath_namesOnly _).2.2, ?_⟩
  rw [tb_names]
  exact noLinkUpto_of_getAt getDS rfl

theorem srcN_copyable : srcN.Copyable fuel := by
  simp [srcN, fuel, Node.Copyable, Node.Copyable.CopyableL, na, nsub]

theorem clash : ¬ Compatible (some dstN) srcN := by decide

theorem exSetup : CopySetup exFs src tb srcN fuel where
  wf := exFs_wf
  srcPlain := src_plain
  node := by rw [src_names]; exact getS
  cop := srcN_copyable
  tbPlain := tb_plain
  ne := by rw [tb_names]; exact List.cons_ne_nil _ _
  par := by rw [tb_names]; exact ⟨_, getD⟩
  un := ⟨by rw [src_names, tb_names]; decide, by rw [src_names, tb_names]; decide⟩
  len := by rw [src_names, tb_names]; decide

theorem exDst : exFs.root.getAt tb.names = some dstN := by rw [tb_names]; exact getDS

theorem instance_fails :
    (execOps exFs {} (walkEntry exFs {} none src tb (fuel + 1) [] [])).exit = .err :=
  (clash_fails exSetup {} rfl rfl exDst (plainWhereMapped_of_plainTree dstN srcN rfl) clash).1

theorem instance_fails_by_evaluation :
    (execOps exFs {} (walkEntry exFs {} none src tb (fuel + 1) [] [])).exit = .err := by
  decide

theorem instance_keeps_other_entry :
    (execOps exFs {} (walkEntry exFs {} none src tb (fuel + 1) [] [])).fs.root.getAt [nD, nS, nkeep] =
        some (.file 7) ∧
      (execOps exFs {} (walkEntry exFs {} none src tb (fuel + 1) [] [])).fs.root.getAt [nD, nS, nsub] =
        some (.file 9) := by
  exact ⟨rfl, rfl⟩

/-- … and the sibling `a`, which comes before `sub` in the source directory, has been copied (by evaluation): the
failing operation is not the first one -/
theorem instance_sibling_copied :
    (execOps exFs {} (walkEntry exFs {} none src tb (fuel + 1) [] [])).fs.root.getAt [nD, nS, na] =
      some (.file 1) := rfl

/-- one interleaving of the instance: the walker re-creates `/D/S`, hands the copy of `a` to the workers, and fails at
`create_dir_all /D/S/sub`; then the queued copy completes -/
def ls1 : List Label := [.walk, .walk, .walk, .exec 0]

theorem instance_fails_on_an_interleaving :
    ∃ s, run {} (init exFs (walkEntry exFs {} none src tb (fuel + 1) [] [])) ls1 = some s ∧ final s = true ∧
      s.failed = true := by
  have h : (run {} (init exFs (walkEntry exFs {} none src tb (fuel + 1) [] [])) ls1).map
      (fun s => (final s, s.failed)) = some (true, true) := by
    decide
  cases hr : run {} (init exFs (walkEntry exFs {} none src tb (fuel + 1) [] [])) ls1 with
  | none => rw [hr] at h; cases h
  | some s =>
    rw [hr] at h
    injection h with h
    injection h with h1 h2
    exact ⟨s, rfl, h1, h2⟩

theorem instance_fails_on_every_interleaving (ls : List Label) (s : St)
    (hrun : run {} (init exFs (walkEntry exFs {} none src tb (fuel + 1) [] [])) ls = some s)
    (hfin : final s = true) : s.failed = true :=
  (clash_fails exSetup {} rfl rfl exDst (plainWhereMapped_of_plainTree dstN srcN rfl) clash).2 ls s hrun hfin

end Xcp.ClashExample
