import XcpProofs.Overlay
import XcpProofs.ClashLemmas
/-! # A destination that clashes with the source: the run exits non-zero, on every interleaving

`mirror_overlay` (Overlay) decides the destinations that are `Compatible` with the source.  This file decides the rest,
for destinations that are plain where the source maps onto them (`Node.plainWhereMapped`, ClashLemmas): at every position
the source tree maps onto — recursively through directory-over-directory pairs — the destination entry, if any, is a
directory or a regular file; under names the source does not list the destination may hold anything (links, special
files, whole subtrees with links, as a destination populated by an earlier copy does).  A destination made of
directories and regular files only (`Node.plainTree`, defined here) is such a destination
(`plainWhereMapped_of_plainTree`).

When such a destination is not compatible with the source — somewhere a directory of the source meets a regular file,
a regular or special file meets a directory, or a symbolic link of the source meets either — the sequential run does not
end with exit status ok, and no run of the concurrent model L0 over the walk's operations can be complete without
having failed (`clash_fails`): the exit status of a clashing copy does not depend on the schedule.  (What the failed run
leaves behind does: the operations that were queued before the failure still complete.)  Together with `mirror_overlay`:
exit 0 implies that the destination is the overlay (C02's statement with no hypothesis about compatibility,
`ok_implies_overlaid`).

The hypothesis cannot be relaxed further at mapped positions: a destination symbolic link under a source regular file is
written through (`File::create` follows it: finding F13) and the run succeeds although the pair is not `Compatible`; a
destination special file under a source regular file is not `Compatible` either, yet in the model the open succeeds, so
the run does not fail.  A special file under a source special file is `Compatible` but not `plainWhereMapped`: that case
is covered by `mirror_overlay` only.

With `--gitignore` the same holds of the pruned tree (`gitignore_clash_fails`): the walk's list is that of
`Node.prune ps [] srcNode`, whose leaves are found at the same places below the source (`CopySetup.walk`).  Only clashes
with the pruned tree count: a destination entry that clashes with a source entry the patterns exclude does not make the
run fail (`C17.excluded_names_already_in_the_destination_are_left_alone` is the positive side: such an entry is left as
it is).

A run that has not failed and is not complete can always go on (`L0.unfailed_unfinished_can_step`, L0Step), so every
maximal run of a clashing copy ends failed (`clash_maximal_run_fails`). -/
namespace Xcp

open L0

mutual
/-- only directories and regular files, at every depth -/
def Node.plainTree : Node → Bool
  | .file _ => true
  | .dir es => plainTreeL es
  | _ => false
def plainTreeL : List (Name × Node) → Bool
  | [] => true
  | (_, ch) :: r => Node.plainTree ch && plainTreeL r
end

theorem plainTreeL_entGet : ∀ (es : List (Name × Node)) (m : Name) (y : Node),
    plainTreeL es = true → entGet es m = some y → y.plainTree = true := by
  intro es
  induction es with
  | nil => intro m y _ h; simp [entGet] at h
  | cons kv r ih =>
    intro m y hp h
    obtain ⟨k, w⟩ := kv
    simp only [plainTreeL, Bool.and_eq_true] at hp
    by_cases hk : k = m
    · simp only [entGet, hk, if_true, Option.some.injEq] at h
      rw [← h]; exact hp.1
    · simp only [entGet, hk, if_false] at h
      exact ih m y hp.2 h

theorem plainTree_getAt : ∀ (q : List Name) (x y : Node), x.plainTree = true → x.getAt q = some y →
    y.isLink = false ∧ y.isSpecial = false := by
  intro q
  induction q with
  | nil =>
    intro x y hp h
    simp only [getAt_nil, Option.some.injEq] at h
    subst h
    cases x <;> simp [Node.plainTree] at hp <;> simp [Node.isLink, Node.isSpecial]
  | cons m q' ih =>
    intro x y hp h
    obtain ⟨es, ch, hx, hc, hy⟩ := Node.getAt_cons_some h
    subst hx
    simp only [Node.plainTree] at hp
    exact ih ch y (plainTreeL_entGet es m ch hp hc) hy

mutual
theorem mappedPlain_of_plainTree : ∀ (n x : Node), x.plainTree = true → Node.mappedPlain (some x) n = true
  | _, .file _, _ => by cases ‹Node› <;> rfl
  | _, .link _, h => by cases h
  | _, .special _ _, h => by cases h
  | .file _, .dir _, _ => rfl
  | .link _, .dir _, _ => rfl
  | .special _ _, .dir _, _ => rfl
  | .dir ses, .dir des, h => by
    rw [Node.mappedPlain]
    exact mappedPlainL_of_plainTreeL ses des h
theorem mappedPlainL_of_plainTreeL : ∀ (ses : List (Name × Node)) (des : Entries), plainTreeL des = true →
    mappedPlainL des ses = true
  | [], _, _ => rfl
  | (m, ch) :: r, des, h => by
    rw [mappedPlainL, Bool.and_eq_true]
    refine ⟨?_, mappedPlainL_of_plainTreeL r des h⟩
    cases hy : entGet des m with
    | none => exact mappedPlain_none ch
    | some y => exact mappedPlain_of_plainTree ch y (plainTreeL_entGet des m y h hy)
end

theorem plainWhereMapped_of_plainTree (dst src : Node) (h : dst.plainTree = true) :
    dst.plainWhereMapped src = true :=
  mappedPlain_of_plainTree src dst h

example : (Node.dir [([1], .file 0), ([7], .link ⟨true, [], false⟩), ([3], .dir [([9], .special .fifo 0)])]).plainWhereMapped
    (.dir [([1], .file 4), ([3], .dir [([5], .file 6)])]) = true := by rfl

example : (Node.dir [([1], .file 0), ([7], .link ⟨true, [], false⟩), ([3], .dir [([9], .special .fifo 0)])]).plainTree
    = false := by rfl

example : (Node.dir [([1], .link ⟨true, [], false⟩)]).plainWhereMapped (.dir [([1], .file 4)]) = false := by rfl

theorem mappedPlain_of_forall {o : Option Node} {src : Node}
    (h : ∀ d, o = some d → d.plainWhereMapped src = true) : Node.mappedPlain o src = true := by
  cases o with
  | none => exact mappedPlain_none _
  | some d => exact h d rfl

/-- the walk under patterns `ps` is the list of the pruned tree, described by `OpsSpec`; its leaves are leaves of the
source -/
theorem CopySetup.walk {fs : Fs} {src tb : RPath} {srcNode : Node} {fuel : Nat} (H : CopySetup fs src tb srcNode fuel)
    (c : Cfg) (hd : c.dereference = false) (hn : c.noClobber = false) (ps : List Gi.Pattern) :
    walkEntry fs c (some ps) src tb (fuel + 1) [] [] = opsOf (Node.prune ps [] srcNode) src.names tb.names ∧
    OpsSpec (Node.prune ps [] srcNode) src.names tb.names fuel (opsOf (Node.prune ps [] srcNode) src.names tb.names) ∧
    ReadsFrom fs.root src.names (Node.prune ps [] srcNode) := by
  refine ⟨?_, ⟨mem_opsOf fuel _ (copyable_prune ps fuel srcNode H.cop []) _ _, H.un.1, H.un.2, H.ne, H.len.1, H.len.2⟩,
    .prune ps H.node (copyable_WF _ _ H.cop)⟩
  rw [plainTarget_eq fs src H.srcPlain, plainTarget_eq fs tb H.tbPlain, plainPath_names, plainPath_names]
  exact walk_root_gi fs c ps hd src.names tb.names (.inl hn) H.cop H.node (H.srcPlain.not_link H.node) H.len.1

/-- a destination, plain where the pruned source tree maps onto it, that is not compatible with it: the sequential run
fails, and every complete run of the concurrent model over the walk's operations has failed -/
theorem gitignore_clash_fails {fs : Fs} {src tb : RPath} {srcNode : Node} {fuel : Nat}
    (H : CopySetup fs src tb srcNode fuel) (c : Cfg) (hd : c.dereference = false) (hn : c.noClobber = false)
    (ps : List Gi.Pattern) {dstNode : Node} (hdst : fs.root.getAt tb.names = some dstNode)
    (hplain : dstNode.plainWhereMapped (Node.prune ps [] srcNode) = true)
    (hclash : ¬ Compatible (some dstNode) (Node.prune ps [] srcNode)) :
    (execOps fs c (walkEntry fs c (some ps) src tb (fuel + 1) [] [])).exit = .err ∧
    ∀ (ls : List Label) (s : St), run c (init fs (walkEntry fs c (some ps) src tb (fuel + 1) [] [])) ls = some s →
      final s = true → s.failed = true := by
  obtain ⟨hshape, hspec, hleaves⟩ := H.walk c hd hn ps
  rw [hshape]
  exact opsOf_clash c (copyable_prune ps fuel srcNode H.cop []) hspec fs H.wf hleaves hdst hplain hclash

/-- … without patterns -/
theorem clash_fails {fs : Fs} {src tb : RPath} {srcNode : Node} {fuel : Nat}
    (H : CopySetup fs src tb srcNode fuel) (c : Cfg) (hd : c.dereference = false) (hn : c.noClobber = false)
    {dstNode : Node} (hdst : fs.root.getAt tb.names = some dstNode)
    (hplain : dstNode.plainWhereMapped srcNode = true) (hclash : ¬ Compatible (some dstNode) srcNode) :
    (execOps fs c (walkEntry fs c none src tb (fuel + 1) [] [])).exit = .err ∧
    ∀ (ls : List Label) (s : St), run c (init fs (walkEntry fs c none src tb (fuel + 1) [] [])) ls = some s →
      final s = true → s.failed = true := by
  have h := gitignore_clash_fails H c hd hn [] hdst (by rw [prune_nil]; exact hplain) (by rw [prune_nil]; exact hclash)
  rw [← walkEntry_none] at h
  exact h

/-- exit status ok implies that the final file system is the initial one with the overlay of the pruned source tree at
the target, for every destination that is plain where that tree maps onto it — no compatibility assumed -/
theorem gitignore_ok_implies_overlaid {fs : Fs} {src tb : RPath} {srcNode : Node} {fuel : Nat}
    (H : CopySetup fs src tb srcNode fuel) (c : Cfg) (hd : c.dereference = false) (hn : c.noClobber = false)
    (ps : List Gi.Pattern)
    (hplain : ∀ d, fs.root.getAt tb.names = some d → d.plainWhereMapped (Node.prune ps [] srcNode) = true)
    (fs' : Fs) (hok : execOps fs c (walkEntry fs c (some ps) src tb (fuel + 1) [] []) = ⟨.ok, fs'⟩) :
    FsEq fs' { fs with
      root := fs.root.setAt tb.names (Node.overlay (fs.root.getAt tb.names) (Node.prune ps [] srcNode)) } := by
  refine ok_implies_of_cases (C := Compatible (fs.root.getAt tb.names) (Node.prune ps [] srcNode))
    (R := fun f => FsEq f { fs with
      root := fs.root.setAt tb.names (Node.overlay (fs.root.getAt tb.names) (Node.prune ps [] srcNode)) })
    (fun hcompat => ?_) (fun hclash => ?_) hok
  · have hrun := overlay_exact H c hd (.inl hn) ps hcompat
    exact ⟨_, hrun, fsEq_placeAt H.wf.2.1 H.par _ (execOps_wf c _ fs _ H.wf hrun).2.1⟩
  · obtain ⟨dstNode, hdst⟩ := exists_of_not_compatible hclash
    rw [hdst] at hclash
    exact (gitignore_clash_fails H c hd hn ps hdst (hplain dstNode hdst) hclash).1

/-- … without patterns -/
theorem ok_implies_overlaid {fs : Fs} {src tb : RPath} {srcNode : Node} {fuel : Nat}
    (H : CopySetup fs src tb srcNode fuel) (c : Cfg) (hd : c.dereference = false) (hn : c.noClobber = false)
    (hplain : ∀ d, fs.root.getAt tb.names = some d → d.plainWhereMapped srcNode = true)
    (fs' : Fs) (hok : execOps fs c (walkEntry fs c none src tb (fuel + 1) [] []) = ⟨.ok, fs'⟩) :
    FsEq fs' { fs with root := fs.root.setAt tb.names (Node.overlay (fs.root.getAt tb.names) srcNode) } := by
  rw [walkEntry_none] at hok
  have h := gitignore_ok_implies_overlaid H c hd hn [] (by rw [prune_nil]; exact hplain) fs' hok
  rw [prune_nil] at h
  exact h

/-- together: from any state of a run of a clashing copy that has not failed, the run can go on; and when it can
go on no further it has failed -/
theorem clash_maximal_run_fails (fs : Fs) (c : Cfg) (hd : c.dereference = false) (hn : c.noClobber = false)
    (src tb : RPath) (srcNode dstNode : Node) (fuel : Nat)
    (hwf : FsEq fs fs) (hroot : fs.root.isDir = true)
    (hsrc : PlainTarget fs src) (hsn : fs.root.getAt src.names = some srcNode)
    (hcop : srcNode.Copyable fuel)
    (htb : PlainTarget fs tb) (hne : tb.names ≠ [])
    (hdst : fs.root.getAt tb.names = some dstNode) (hplain : dstNode.plainTree = true)
    (hclash : ¬ Compatible (some dstNode) srcNode)
    (hpar : ∃ es, fs.root.getAt tb.names.dropLast = some (.dir es))
    (hun1 : ¬ src.names <+: tb.names) (hun2 : ¬ tb.names <+: src.names)
    (hlen : src.names.length + fuel < 200 ∧ tb.names.length + fuel < 200)
    (ls : List Label) (s : St)
    (hrun : run c (init fs (walkEntry fs c none src tb (fuel + 1) [] [])) ls = some s)
    (hmax : ∀ l, step c s l = none) : s.failed = true := by
  exact maximal_run_failed c s ((clash_fails (.of_hyps hwf hroot hsrc hsn hcop htb hne hpar hun1 hun2 hlen) c hd hn hdst
    (plainWhereMapped_of_plainTree _ _ hplain) hclash).2 ls s hrun) hmax

end Xcp
