import XcpProofs.Legal
import XcpProofs.Bytes
/-! The copy loops under an adversarial but legal kernel: when a loop reports success, the bytes it moved
cover exactly the range it was asked to copy; and under the progress assumption it never spins.
Each loop function has one theorem `…_post`, proved by one induction on its fuel, that says all of this;
`bytesUspace_ok`, `copyFileOffset_ok`, `copyFileOffset_count` and `copyBytes_copied` spell out single clauses of
them in terms of `JobsIn`, `covered` and `copiedOf` alone. -/
namespace Xcp

/-- every byte range a loop moved (`jobsOf` its events) lies inside a file of length `len` -/
def JobsIn (evs : List Ev) (len : Nat) : Prop := ∀ j ∈ jobsOf evs, j.1 + j.2 ≤ len

theorem jobsOf_append (l1 l2 : List Ev) : jobsOf (l1 ++ l2) = jobsOf l1 ++ jobsOf l2 := by
  induction l1 with
  | nil => rfl
  | cons e t ih =>
    rw [List.cons_append]
    cases e with
    | copied n => exact ih
    | call s o q ans => cases s <;> cases ans <;> simp only [jobsOf, ih, List.cons_append]

theorem copiedOf_append (l1 l2 : List Ev) : copiedOf (l1 ++ l2) = copiedOf l1 ++ copiedOf l2 := by
  induction l1 with
  | nil => rfl
  | cons e t ih =>
    rw [List.cons_append]
    cases e with
    | copied n => simp only [copiedOf, ih, List.cons_append]
    | call s o q ans => exact ih

@[simp] theorem Run.pre_evs (es : List Ev) (r : Run) : (r.pre es).evs = es ++ r.evs := rfl
@[simp] theorem Run.pre_stop (es : List Ev) (r : Run) : (r.pre es).stop = r.stop := rfl
@[simp] theorem Run.pre_next (es : List Ev) (r : Run) : (r.pre es).next = r.next := rfl
@[simp] theorem Run.cons_evs (e : Ev) (r : Run) : (r.cons e).evs = e :: r.evs := rfl
@[simp] theorem Run.cons_stop (e : Ev) (r : Run) : (r.cons e).stop = r.stop := rfl
@[simp] theorem Run.cons_next (e : Ev) (r : Run) : (r.cons e).next = r.next := rfl

theorem classifyCfr_done {x : IoAns} {n : Nat} (h : classifyCfr x = .done n) : x = .moved n := by
  unfold classifyCfr at h; split at h <;> simp_all

theorem jobsOf_cfr {x : IoAns} {n : Nat} (h : x = .moved n) (o q : Nat) :
    jobsOf [.call .cfr o q x] = [(o, n)] := h ▸ rfl

theorem jobsOf_cfr_fallback {x : IoAns} (h : classifyCfr x = .fallback) (o q : Nat) :
    jobsOf [.call .cfr o q x] = [] := by
  cases x with
  | moved n => nomatch h
  | err e => rfl

/-- the byte ranges moved by the events `evs` of a loop make up exactly `[lo, hi)`: nothing missing, nothing
outside (overlaps and repetitions allowed) -/
def Moves (evs : List Ev) (lo hi : Nat) : Prop := ∀ i, covered (jobsOf evs) i ↔ lo ≤ i ∧ i < hi

theorem Moves.empty {es : List Ev} {lo : Nat} (hj : jobsOf es = []) : Moves es lo lo :=
  fun i => hj ▸ ⟨fun h => absurd h (covered_nil i).mp, fun h => absurd h.2 (Nat.not_lt.mpr h.1)⟩

theorem Moves.job {es : List Ev} {lo m : Nat} (hj : jobsOf es = [(lo, m)]) : Moves es lo (lo + m) :=
  fun i => hj ▸ (covered_cons (lo, m) [] i).trans
    ⟨fun h => h.elim id (fun h => absurd h (covered_nil i).mp), Or.inl⟩

theorem Moves.append {e1 e2 : List Ev} {lo mid hi : Nat} (h1 : Moves e1 lo mid) (h2 : Moves e2 mid hi)
    (hlm : lo ≤ mid) (hmh : mid ≤ hi) : Moves (e1 ++ e2) lo hi := by
  intro i
  rw [jobsOf_append, covered_append, h1 i, h2 i]
  omega

/-- `Moves`, and no single range reaches beyond the end of a file of length `len` -/
def MovesIn (evs : List Ev) (len : Nat) (lo hi : Nat) : Prop := JobsIn evs len ∧ Moves evs lo hi

theorem MovesIn.empty {len : Nat} {es : List Ev} {lo : Nat} (hj : jobsOf es = []) : MovesIn es len lo lo :=
  ⟨fun _ h => absurd (hj ▸ h) List.not_mem_nil, Moves.empty hj⟩

theorem MovesIn.job {len : Nat} {es : List Ev} {lo m : Nat} (hj : jobsOf es = [(lo, m)]) (h : lo + m ≤ len) :
    MovesIn es len lo (lo + m) :=
  ⟨fun _ hm => List.eq_of_mem_singleton (hj ▸ hm) ▸ h, Moves.job hj⟩

theorem MovesIn.append {len : Nat} {e1 e2 : List Ev} {lo mid hi : Nat} (h1 : MovesIn e1 len lo mid)
    (h2 : MovesIn e2 len mid hi) (hlm : lo ≤ mid) (hmh : mid ≤ hi) : MovesIn (e1 ++ e2) len lo hi :=
  ⟨fun j hj => (List.mem_append.mp (jobsOf_append e1 e2 ▸ hj)).elim (h1.1 j) (h2.1 j),
   h1.2.append h2.2 hlm hmh⟩

theorem MovesIn.le_len {len : Nat} {evs : List Ev} {lo hi : Nat} (h : MovesIn evs len lo hi) (hlt : lo < hi) :
    hi ≤ len := by
  obtain ⟨j, hj, _, h2⟩ := (h.2 (hi - 1)).mpr (by omega)
  have := h.1 j hj
  omega

theorem KernSafe.le_req {k : Kern} {len a off req n : Nat} {s : Sys} (hs : KernSafe k len)
    (h : k a s off req = .moved n) : n ≤ req :=
  (hs a s off req n h).1

theorem KernSafe.in_file {k : Kern} {len a off req n : Nat} {s : Sys} (hs : KernSafe k len)
    (h : k a s off req = .moved n) (hr : s = .cfr ∨ s = .pread ∨ s = .read) (hn : n ≠ 0) : off + n ≤ len := by
  have := (hs a s off req n h).2 hr
  omega

theorem Run.fail_post {R : Run} {e : CopyErr} (h : R.stop = .fail e) {P : Nat → Prop} {Q : Prop} :
    (∀ n, R.stop = .ok n → P n) ∧ (Q → R.stop ≠ .spin) :=
  ⟨fun _ hn => Stop.noConfusion (h.symm.trans hn), fun _ hn => Stop.noConfusion (h.symm.trans hn)⟩

theorem Run.ok_post {R : Run} {w : Nat} (h : R.stop = .ok w) {P : Nat → Prop} {Q : Prop} (hp : P w) :
    (∀ n, R.stop = .ok n → P n) ∧ (Q → R.stop ≠ .spin) :=
  ⟨fun _ hn => Stop.ok.inj (h.symm.trans hn) ▸ hp, fun _ hn => Stop.noConfusion (h.symm.trans hn)⟩

/-- `copy_range_uspace` (loop variable `w`): on success everything asked for was moved, and the jobs are
exactly the rest of the range; with fuel for the rest it does not spin -/
theorem rangeUspace_post (k : Kern) (len : Nat) (hs : KernSafe k len) :
    ∀ (fuel a off nbytes w : Nat), w ≤ nbytes →
      (∀ n, (rangeUspace k fuel a off nbytes w).stop = .ok n →
        n = nbytes ∧ MovesIn (rangeUspace k fuel a off nbytes w).evs len (off + w) (off + nbytes)) ∧
      (nbytes < w + fuel → (rangeUspace k fuel a off nbytes w).stop ≠ .spin) := by
  intro fuel
  induction fuel with
  | zero =>
    intro a off nbytes w hw
    by_cases h : w < nbytes
    · rw [rangeUspace, if_pos h]
      exact ⟨nofun, fun hf => absurd hf (Nat.not_lt.mpr (Nat.le_of_lt h))⟩
    · obtain rfl : w = nbytes := Nat.le_antisymm hw (Nat.le_of_not_lt h)
      rw [rangeUspace, if_neg h]
      exact Run.ok_post rfl ⟨rfl, MovesIn.empty rfl⟩
  | succ f ih =>
    intro a off nbytes w hw
    by_cases h : w < nbytes
    · rw [rangeUspace, if_pos h]
      simp only []
      split
      · exact Run.fail_post rfl
      · rename_i rlen h0 hra
        have b1 : w + rlen ≤ nbytes :=
          Nat.add_le_of_le_sub' hw (Nat.le_trans (hs.le_req hra) (Nat.min_le_left ..))
        have b2 := hs.in_file hra (.inr (.inl rfl)) h0
        have hpos : 0 < rlen := Nat.pos_of_ne_zero h0
        split
        · split
          · exact Run.fail_post rfl
          · obtain ⟨i1, i2⟩ := ih (a+2) off nbytes (w + rlen) b1
            refine ⟨fun n hn => ⟨(i1 n hn).1, ?_⟩, fun hf => i2 (by omega)⟩
            exact (MovesIn.job rfl b2).append (Nat.add_assoc .. ▸ (i1 n hn).2) (Nat.le_add_right ..)
              (Nat.add_assoc .. ▸ Nat.add_le_add_left b1 off)
        · exact Run.fail_post rfl
      · exact Run.fail_post rfl
    · obtain rfl : w = nbytes := Nat.le_antisymm hw (Nat.le_of_not_lt h)
      rw [rangeUspace, if_neg h]
      exact Run.ok_post rfl ⟨rfl, MovesIn.empty rfl⟩

/-- `copy_bytes_uspace` (loop variable `w`), like `rangeUspace_post`; an `EINTR` on `read` is retried, so
not spinning also needs `read` to answer `EINTR` never -/
theorem bytesUspace_post (k : Kern) (len : Nat) (hs : KernSafe k len) :
    ∀ (fuel a pos nbytes w : Nat), w ≤ nbytes →
      (∀ n, (bytesUspace k fuel a pos nbytes w).stop = .ok n →
        n = nbytes ∧ MovesIn (bytesUspace k fuel a pos nbytes w).evs len (pos + w) (pos + nbytes) ∧
        copiedOf (bytesUspace k fuel a pos nbytes w).evs = []) ∧
      ((∀ a off req, k a .read off req ≠ .err .EINTR) ∧ nbytes < w + fuel →
        (bytesUspace k fuel a pos nbytes w).stop ≠ .spin) := by
  intro fuel
  induction fuel with
  | zero =>
    intro a pos nbytes w hw
    by_cases h : w < nbytes
    · rw [bytesUspace, if_pos h]
      exact ⟨nofun, fun hf => absurd hf.2 (Nat.not_lt.mpr (Nat.le_of_lt h))⟩
    · obtain rfl : w = nbytes := Nat.le_antisymm hw (Nat.le_of_not_lt h)
      rw [bytesUspace, if_neg h]
      exact Run.ok_post rfl ⟨rfl, MovesIn.empty rfl, rfl⟩
  | succ f ih =>
    intro a pos nbytes w hw
    by_cases h : w < nbytes
    · rw [bytesUspace, if_pos h]
      simp only []
      split
      · exact Run.fail_post rfl
      · rename_i rlen h0 hra
        have b1 : w + rlen ≤ nbytes :=
          Nat.add_le_of_le_sub' hw (Nat.le_trans (hs.le_req hra) (Nat.min_le_left ..))
        have b2 := hs.in_file hra (.inr (.inr rfl)) h0
        have hpos : 0 < rlen := Nat.pos_of_ne_zero h0
        split
        · rename_i hwa
          obtain ⟨i1, i2⟩ := ih (a+2) pos nbytes (w + rlen) b1
          refine ⟨fun n hn => ⟨(i1 n hn).1, ?_, (i1 n hn).2.2⟩, fun hf => i2 ⟨hf.1, by omega⟩⟩
          exact (MovesIn.job (by rw [hwa]; rfl) b2).append (Nat.add_assoc .. ▸ (i1 n hn).2.1)
            (Nat.le_add_right ..) (Nat.add_assoc .. ▸ Nat.add_le_add_left b1 pos)
        · exact Run.fail_post rfl
      · rename_i hra
        obtain ⟨i1, i2⟩ := ih (a+1) pos nbytes w hw
        refine ⟨fun n hn => ⟨(i1 n hn).1, ?_, (i1 n hn).2.2⟩, fun hf => absurd hra (hf.1 _ _ _)⟩
        exact MovesIn.append (e1 := [_]) (MovesIn.empty rfl) (i1 n hn).2.1 (Nat.le_refl _) (Nat.add_le_add_left hw pos)
      · exact Run.fail_post rfl
    · obtain rfl : w = nbytes := Nat.le_antisymm hw (Nat.le_of_not_lt h)
      rw [bytesUspace, if_neg h]
      exact Run.ok_post rfl ⟨rfl, MovesIn.empty rfl, rfl⟩

theorem bytesUspace_ok (k : Kern) (len : Nat) (hs : KernSafe k len) :
    ∀ (fuel a pos nbytes w n : Nat), w ≤ nbytes →
      (bytesUspace k fuel a pos nbytes w).stop = .ok n →
      n = nbytes ∧ JobsIn (bytesUspace k fuel a pos nbytes w).evs len ∧
      ∀ i, covered (jobsOf (bytesUspace k fuel a pos nbytes w).evs) i ↔ pos + w ≤ i ∧ i < pos + nbytes :=
  fun fuel a pos nbytes w n hw h =>
    have ⟨e1, e2, _⟩ := (bytesUspace_post k len hs fuel a pos nbytes w hw).1 n h
    ⟨e1, e2⟩

/-- `copy_file_offset` with the retry loop (loop variable `c`), started at or before end of file: on success
the returned count is the block clipped at end of file and the jobs are exactly the rest of that; with fuel
for the rest of the block it does not spin, wherever the block starts -/
theorem copyFileOffset_post (k : Kern) (len : Nat) (hs : KernSafe k len) (hl : KernLive k len) :
    ∀ (fuel a off bytes c : Nat), c ≤ bytes →
      (∀ n, (copyFileOffset k fuel a off bytes c).stop = .ok n → off + c ≤ len →
        c ≤ n ∧ n ≤ bytes ∧ off + n = min (off + bytes) len ∧
        MovesIn (copyFileOffset k fuel a off bytes c).evs len (off + c) (off + n)) ∧
      (bytes < c + fuel → (copyFileOffset k fuel a off bytes c).stop ≠ .spin) := by
  intro fuel
  induction fuel with
  | zero =>
    intro a off bytes c hc
    by_cases h : c < bytes
    · rw [copyFileOffset, if_pos h]
      exact ⟨nofun, fun hf => absurd hf (Nat.not_lt.mpr (Nat.le_of_lt h))⟩
    · obtain rfl : c = bytes := Nat.le_antisymm hc (Nat.le_of_not_lt h)
      rw [copyFileOffset, if_neg h]
      exact Run.ok_post rfl fun hlen =>
        ⟨Nat.le_refl _, Nat.le_refl _, (Nat.min_eq_left hlen).symm, MovesIn.empty rfl⟩
  | succ f ih =>
    intro a off bytes c hc
    by_cases h : c < bytes
    · rw [copyFileOffset, if_pos h]
      simp only []
      split
      · rename_i hcl
        have hca := classifyCfr_done hcl
        refine Run.ok_post rfl fun hlen => ?_
        have hge : len ≤ off + c :=
          Nat.le_of_not_lt fun hlt => hl a .cfr (off + c) (bytes - c) (.inl rfl) (Nat.sub_pos_of_lt h) hlt hca
        exact ⟨Nat.le_refl _, hc,
          (Nat.le_antisymm hlen hge).trans
            (Nat.min_eq_right (Nat.le_trans hge (Nat.add_le_add_left hc off))).symm,
          MovesIn.job (m := 0) (jobsOf_cfr hca ..) hlen⟩
      · rename_i n h0 hcl
        have hca := classifyCfr_done hcl
        have b1 : c + n ≤ bytes := Nat.add_le_of_le_sub' hc (hs.le_req hca)
        have b2 : off + c + n ≤ len := hs.in_file hca (.inl rfl) h0
        have hpos : 0 < n := Nat.pos_of_ne_zero h0
        obtain ⟨i1, i2⟩ := ih (a+1) off bytes (c + n) b1
        refine ⟨fun m hm _ => ?_, fun hf => i2 (by omega)⟩
        obtain ⟨e1, e2, e3, e4⟩ := i1 m hm (Nat.add_assoc .. ▸ b2)
        exact ⟨Nat.le_trans (Nat.le_add_right c n) e1, e2, e3,
          MovesIn.append (e1 := [_]) (MovesIn.job (jobsOf_cfr hca ..) b2) (Nat.add_assoc .. ▸ e4)
            (Nat.le_add_right ..) (Nat.add_assoc .. ▸ Nat.add_le_add_left e1 off)⟩
      · exact Run.fail_post rfl
      · rename_i hcl
        obtain ⟨r1, r2⟩ :=
          rangeUspace_post k len hs (bytes - c + 1) (a+1) (off + c) (bytes - c) 0 (Nat.zero_le _)
        split
        · rename_i rest hrest
          obtain ⟨rfl, e2⟩ := r1 rest hrest
          rw [Nat.add_zero (off + c), Nat.add_assoc off c, Nat.add_sub_cancel' hc] at e2
          rw [Nat.add_sub_cancel' hc]
          refine Run.ok_post rfl fun _ => ?_
          exact ⟨hc, Nat.le_refl _, (Nat.min_eq_left (e2.le_len (Nat.add_lt_add_left h off))).symm,
            MovesIn.append (e1 := [_]) (MovesIn.empty (jobsOf_cfr_fallback hcl ..)) e2 (Nat.le_refl _)
              (Nat.add_le_add_left hc off)⟩
        · rename_i hnot
          exact ⟨fun n hn => absurd hn (hnot n), fun _ => r2 (by omega)⟩
    · obtain rfl : c = bytes := Nat.le_antisymm hc (Nat.le_of_not_lt h)
      rw [copyFileOffset, if_neg h]
      exact Run.ok_post rfl fun hlen =>
        ⟨Nat.le_refl _, Nat.le_refl _, (Nat.min_eq_left hlen).symm, MovesIn.empty rfl⟩

/- Without `off + c ≤ len` the claim `JobsIn` below is false: a block that starts beyond the end of the file
gets the answer `moved 0` (legal: `KernSafe` and `KernLive` hold), the loop returns `ok c` and its event list
holds the zero-length job `(off + c, 0)`, for which `off + c + 0 ≤ len` fails.  Concretely: `len = 0`,
`off = 5`, `bytes = 1`, `c = 0`, `fuel = 1`, kernel answering `moved 0` to everything. -/
example : let k : Kern := fun _ _ _ _ => .moved 0
    KernSafe k 0 ∧ KernLive k 0 ∧ (copyFileOffset k 1 0 5 1 0).stop = .ok 0 ∧
    ¬ JobsIn (copyFileOffset k 1 0 5 1 0).evs 0 := by
  refine ⟨?_, ?_, by decide, ?_⟩
  · intro a s off req n h; simp at h; subst h; simp
  · intro a s off req _ _ h; omega
  · intro h; have := h (5, 0) (by decide); simp at this

/-- `copy_file_offset` with the retry loop: on success the moved bytes are exactly the block clipped at EOF -/
theorem copyFileOffset_ok (k : Kern) (len : Nat) (hs : KernSafe k len) (hl : KernLive k len) :
    ∀ (fuel a off bytes c n : Nat), c ≤ bytes → off + c ≤ len →
      (copyFileOffset k fuel a off bytes c).stop = .ok n →
      c ≤ n ∧ n ≤ bytes ∧ JobsIn (copyFileOffset k fuel a off bytes c).evs len ∧
      ∀ i, covered (jobsOf (copyFileOffset k fuel a off bytes c).evs) i ↔
            off + c ≤ i ∧ i < min (off + bytes) len := by
  intro fuel a off bytes c n hc hlen h
  obtain ⟨e1, e2, e3, e4⟩ := (copyFileOffset_post k len hs hl fuel a off bytes c hc).1 n h hlen
  exact ⟨e1, e2, e4.1, e3 ▸ e4.2⟩

/-- the returned count is what was copied: `off + n = min (off + bytes) len` when the block starts inside the file -/
theorem copyFileOffset_count (k : Kern) (len : Nat) (hs : KernSafe k len) (hl : KernLive k len) :
    ∀ (fuel a off bytes c n : Nat), c ≤ bytes → off + c ≤ len →
      (copyFileOffset k fuel a off bytes c).stop = .ok n → off + n = min (off + bytes) len :=
  fun fuel a off bytes c n hc hlen h =>
    ((copyFileOffset_post k len hs hl fuel a off bytes c hc).1 n h hlen).2.2.1

/-- the one `copy_file_bytes` call of an iteration of `copy_bytes`, on either backend -/
def cbStep (k : Kern) (linux : Bool) (a p req : Nat) : Run :=
  if linux then copyFileBytes k a p req else copyFileBytesFallback k a p req

theorem copyBytes_succ (k : Kern) (linux : Bool) (b f a pos n w : Nat) :
    copyBytes k linux b (f+1) a pos n w =
      if w < n then
        match (cbStep k linux a (pos + w) (min (n - w) b)).stop with
        | .ok m => (copyBytes k linux b f (cbStep k linux a (pos + w) (min (n - w) b)).next pos n (w + m)).pre
                    ((cbStep k linux a (pos + w) (min (n - w) b)).evs ++ [.copied m])
        | _ => cbStep k linux a (pos + w) (min (n - w) b)
      else ⟨[], .ok w, a⟩ := rfl

/-- one `copy_file_bytes(req)` at cursor `p`, as run `R`: on success it moved `m ≤ req` bytes, exactly
`[p, p + m)`, and sent no `Copied`; on a non-empty request strictly inside the file a live kernel makes it
neither spin nor return 0 -/
def StepPost (k : Kern) (len p req : Nat) (R : Run) : Prop :=
  (∀ m, R.stop = .ok m → m ≤ req ∧ Moves R.evs p (p + m) ∧ copiedOf R.evs = []) ∧
  (KernLive k len → (∀ a off req, k a .read off req ≠ .err .EINTR) → 0 < req → p < len →
    R.stop ≠ .spin ∧ ∀ m, R.stop = .ok m → 0 < m)

theorem copyFileBytesFallback_post (k : Kern) (len : Nat) (hs : KernSafe k len) (a p req : Nat) :
    StepPost k len p req (copyFileBytesFallback k a p req) := by
  obtain ⟨u1, u2⟩ := bytesUspace_post k len hs (2 * req + 1) a p req 0 (Nat.zero_le _)
  refine ⟨fun m hm => ?_, fun _ hne hreq _ => ⟨u2 ⟨hne, by omega⟩, fun m hm => (u1 m hm).1 ▸ hreq⟩⟩
  obtain ⟨rfl, e2, e3⟩ := u1 m hm
  exact ⟨Nat.le_refl _, e2.2, e3⟩

theorem cbStep_post (k : Kern) (len : Nat) (hs : KernSafe k len) (linux : Bool) (a p req : Nat) :
    StepPost k len p req (cbStep k linux a p req) := by
  cases linux
  · exact copyFileBytesFallback_post k len hs a p req
  · simp only [cbStep, if_true]
    unfold copyFileBytes
    simp only []
    split
    · rename_i n hcl
      have hca := classifyCfr_done hcl
      refine ⟨fun m hm => ?_, fun hl _ hreq hp => ⟨nofun, fun m hm => ?_⟩⟩
      · obtain rfl := Stop.ok.inj hm
        exact ⟨hs.le_req hca, Moves.job (jobsOf_cfr hca ..), rfl⟩
      · obtain rfl := Stop.ok.inj hm
        exact Nat.pos_of_ne_zero fun h0 => hl a .cfr p req (.inl rfl) hreq hp (h0 ▸ hca)
    · exact ⟨nofun, fun _ _ _ _ => ⟨nofun, nofun⟩⟩
    · rename_i hcl
      obtain ⟨f1, f2⟩ := copyFileBytesFallback_post k len hs (a+1) p req
      refine ⟨fun m hm => ?_, f2⟩
      obtain ⟨e1, e2, e3⟩ := f1 m hm
      exact ⟨e1, Moves.append (e1 := [_]) (Moves.empty (jobsOf_cfr_fallback hcl ..)) e2 (Nat.le_refl _)
        (Nat.le_add_right ..), e3⟩

/-- `copy_bytes` (loop variable `w`): it returns only when everything asked for has been moved, the jobs are
exactly the rest of the range and the `Copied` updates sum to it; with a positive block size, a live kernel,
the range inside the file and fuel for the rest it does not spin -/
theorem copyBytes_post (k : Kern) (len : Nat) (hs : KernSafe k len) (linux : Bool) (b : Nat) :
    ∀ (fuel a pos n w : Nat), w ≤ n →
      (∀ r, (copyBytes k linux b fuel a pos n w).stop = .ok r →
        r = n ∧ Moves (copyBytes k linux b fuel a pos n w).evs (pos + w) (pos + n) ∧
        (copiedOf (copyBytes k linux b fuel a pos n w).evs).sum + w = n) ∧
      (KernLive k len → (∀ a off req, k a .read off req ≠ .err .EINTR) → 0 < b → pos + n ≤ len →
        n < w + fuel → (copyBytes k linux b fuel a pos n w).stop ≠ .spin) := by
  intro fuel
  induction fuel with
  | zero =>
    intro a pos n w hw
    by_cases h : w < n
    · rw [copyBytes, if_pos h]
      exact ⟨nofun, fun _ _ _ _ hf => absurd hf (Nat.not_lt.mpr (Nat.le_of_lt h))⟩
    · obtain rfl : w = n := Nat.le_antisymm hw (Nat.le_of_not_lt h)
      rw [copyBytes, if_neg h]
      exact ⟨fun r hr => ⟨(Stop.ok.inj hr).symm, Moves.empty rfl, Nat.zero_add w⟩, fun _ _ _ _ _ => nofun⟩
  | succ f ih =>
    intro a pos n w hw
    by_cases h : w < n
    · rw [copyBytes_succ, if_pos h]
      obtain ⟨s1, s2⟩ := cbStep_post k len hs linux a (pos + w) (min (n - w) b)
      generalize cbStep k linux a (pos + w) (min (n - w) b) = R at s1 s2 ⊢
      split
      · rename_i m hm
        obtain ⟨m1, m2, m3⟩ := s1 m hm
        have hwm : w + m ≤ n := Nat.add_le_of_le_sub' hw (Nat.le_trans m1 (Nat.min_le_left ..))
        obtain ⟨i1, i2⟩ := ih R.next pos n (w + m) hwm
        refine ⟨fun r hr => ?_, fun hl hne hb hp hf => i2 hl hne hb hp ?_⟩
        · obtain ⟨e1, e2, e3⟩ := i1 r hr
          refine ⟨e1, ?_, ?_⟩
          · exact ((m2.append (Moves.empty rfl) (Nat.le_add_right ..) (Nat.le_refl _)).append
              (Nat.add_assoc .. ▸ e2) (Nat.le_add_right ..) (Nat.add_assoc .. ▸ Nat.add_le_add_left hwm pos))
          · rw [Run.pre_evs, copiedOf_append, copiedOf_append, m3]
            show (m :: copiedOf _).sum + w = n
            rw [List.sum_cons, Nat.add_comm m, Nat.add_assoc, Nat.add_comm m]
            exact e3
        · have := (s2 hl hne (Nat.lt_min.mpr ⟨Nat.sub_pos_of_lt h, hb⟩)
            (Nat.lt_of_lt_of_le (Nat.add_lt_add_left h pos) hp)).2 m hm
          omega
      · rename_i hnot
        exact ⟨fun r hr => absurd hr (hnot r), fun hl hne hb hp _ =>
          (s2 hl hne (Nat.lt_min.mpr ⟨Nat.sub_pos_of_lt h, hb⟩)
            (Nat.lt_of_lt_of_le (Nat.add_lt_add_left h pos) hp)).1⟩
    · obtain rfl : w = n := Nat.le_antisymm hw (Nat.le_of_not_lt h)
      rw [copyBytes_succ, if_neg h]
      exact ⟨fun r hr => ⟨(Stop.ok.inj hr).symm, Moves.empty rfl, Nat.zero_add w⟩, fun _ _ _ _ _ => nofun⟩

/-- `Copied` updates of `copy_bytes` sum to what was moved -/
theorem copyBytes_copied (k : Kern) (len : Nat) (hs : KernSafe k len) (linux : Bool) (b : Nat) :
    ∀ (fuel a pos n w r : Nat), w ≤ n →
      (copyBytes k linux b fuel a pos n w).stop = .ok r →
      (copiedOf (copyBytes k linux b fuel a pos n w).evs).sum + w = n :=
  fun fuel a pos n w r hw h => ((copyBytes_post k len hs linux b fuel a pos n w hw).1 r h).2.2

end Xcp
