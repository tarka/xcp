import XcpProofs.TreeOps
/-! # The source tree minus what `--gitignore` excludes

The pruned tree `Node.prune` (the source tree minus the entries the walker's filter excludes, with exactly the
`isDir` flag the walker computes), its algebra (`getAt` of a pruned tree, `Copyable`/`WF` are kept, `ps = []`
prunes nothing), and one-step unfoldings of `walkEntry` with `gi = some ps`. -/
namespace Xcp

/-! ## The pruned tree

`walkEntry` tests an entry below the root with `Gi.keeps ps rel (giIsDir fs c p)`, where `giIsDir fs c p` is the entry's
own type as `lstat` reports it: `true` for a directory; for a symbolic link `c.dereference && (it leads to a directory)`;
`false` otherwise.  Without `--dereference` (the setting of the mirror theorems) the flag is therefore `Node.isDir`
of the entry's node — determined by the source tree alone, links included. -/

mutual
/-- the tree `n` found at relative path `rel`, minus what the patterns exclude below it; `n` itself is not tested -/
def Node.prune (ps : List Gi.Pattern) : List Name → Node → Node
  | rel, .dir es => .dir (pruneL ps rel es)
  | _, .file k => .file k
  | _, .link t => .link t
  | _, .special k d => .special k d
/-- the entries of the directory at `rel` that pass the walker's test, each pruned in turn -/
def pruneL (ps : List Gi.Pattern) : List Name → List (Name × Node) → List (Name × Node)
  | _, [] => []
  | rel, (m, ch) :: r =>
    if Gi.keeps ps (rel ++ [m]) ch.isDir then (m, Node.prune ps (rel ++ [m]) ch) :: pruneL ps rel r
    else pruneL ps rel r
end

theorem prune_nondir (ps : List Gi.Pattern) (rel : List Name) (n : Node)
    (h : n.isDir = false) : Node.prune ps rel n = n := by
  cases n <;> simp [Node.isDir] at h <;> simp [Node.prune]

theorem prune_isDir (ps : List Gi.Pattern) (rel : List Name) (n : Node) :
    (Node.prune ps rel n).isDir = n.isDir := by
  cases n <;> simp [Node.prune, Node.isDir]

theorem pruneL_cons_keep (ps : List Gi.Pattern) (rel : List Name) (m : Name) (ch : Node)
    (r : List (Name × Node)) (h : Gi.keeps ps (rel ++ [m]) ch.isDir = true) :
    pruneL ps rel ((m, ch) :: r) = (m, Node.prune ps (rel ++ [m]) ch) :: pruneL ps rel r := by
  simp [pruneL, h]

theorem pruneL_cons_drop (ps : List Gi.Pattern) (rel : List Name) (m : Name) (ch : Node)
    (r : List (Name × Node)) (h : Gi.keeps ps (rel ++ [m]) ch.isDir = false) :
    pruneL ps rel ((m, ch) :: r) = pruneL ps rel r := by
  simp [pruneL, h]

theorem pruneL_mem (ps : List Gi.Pattern) (rel : List Name) :
    ∀ (es : List (Name × Node)) (e : Name × Node), e ∈ pruneL ps rel es →
      ∃ ch, (e.1, ch) ∈ es ∧ e.2 = Node.prune ps (rel ++ [e.1]) ch ∧
        Gi.keeps ps (rel ++ [e.1]) ch.isDir = true := by
  intro es
  induction es with
  | nil => intro e he; simp [pruneL] at he
  | cons kv r ih =>
    obtain ⟨m, c⟩ := kv
    intro e he
    cases hk : Gi.keeps ps (rel ++ [m]) c.isDir with
    | true =>
      rw [pruneL_cons_keep _ _ _ _ _ hk] at he
      cases he with
      | head => exact ⟨c, List.mem_cons_self, rfl, hk⟩
      | tail _ hm =>
        obtain ⟨ch, h1, h2, h3⟩ := ih e hm
        exact ⟨ch, List.mem_cons_of_mem _ h1, h2, h3⟩
    | false =>
      rw [pruneL_cons_drop _ _ _ _ _ hk] at he
      obtain ⟨ch, h1, h2, h3⟩ := ih e he
      exact ⟨ch, List.mem_cons_of_mem _ h1, h2, h3⟩

theorem pruneL_mem_of (ps : List Gi.Pattern) (rel : List Name) :
    ∀ (es : List (Name × Node)) (m : Name) (ch : Node), (m, ch) ∈ es →
      Gi.keeps ps (rel ++ [m]) ch.isDir = true →
      (m, Node.prune ps (rel ++ [m]) ch) ∈ pruneL ps rel es := by
  intro es
  induction es with
  | nil => intro m ch he; cases he
  | cons kv r ih =>
    obtain ⟨k, c⟩ := kv
    intro m ch he hkp
    cases hk : Gi.keeps ps (rel ++ [k]) c.isDir with
    | true =>
      rw [pruneL_cons_keep _ _ _ _ _ hk]
      cases he with
      | head => exact List.mem_cons_self
      | tail _ hm => exact List.mem_cons_of_mem _ (ih m ch hm hkp)
    | false =>
      rw [pruneL_cons_drop _ _ _ _ _ hk]
      cases he with
      | head => rw [hk] at hkp; cases hkp
      | tail _ hm => exact ih m ch hm hkp

theorem pruneL_names_sublist (ps : List Gi.Pattern) (rel : List Name) :
    ∀ (es : List (Name × Node)), List.Sublist ((pruneL ps rel es).map (·.1)) (es.map (·.1)) := by
  intro es
  induction es with
  | nil => simp [pruneL]
  | cons kv r ih =>
    obtain ⟨m, c⟩ := kv
    cases hk : Gi.keeps ps (rel ++ [m]) c.isDir with
    | true =>
      rw [pruneL_cons_keep _ _ _ _ _ hk]
      simp only [List.map_cons]
      exact List.Sublist.cons_cons _ ih
    | false =>
      rw [pruneL_cons_drop _ _ _ _ _ hk]
      simp only [List.map_cons]
      exact List.Sublist.cons _ ih

theorem pruneL_nodup (ps : List Gi.Pattern) (rel : List Name) (es : List (Name × Node))
    (h : (es.map (·.1)).Nodup) : ((pruneL ps rel es).map (·.1)).Nodup :=
  List.Nodup.sublist (pruneL_names_sublist ps rel es) h

theorem entGet_pruneL (ps : List Gi.Pattern) (rel : List Name) (es : List (Name × Node))
    (hnd : (es.map (·.1)).Nodup) (k : Name) (y : Node) (h : entGet (pruneL ps rel es) k = some y) :
    ∃ ch, entGet es k = some ch ∧ y = Node.prune ps (rel ++ [k]) ch ∧
      Gi.keeps ps (rel ++ [k]) ch.isDir = true := by
  obtain ⟨ch, h1, h2, h3⟩ := pruneL_mem ps rel es (k, y) (entGet_mem h)
  exact ⟨ch, entGet_of_mem es hnd (k, ch) h1, h2, h3⟩

theorem entGet_pruneL_of (ps : List Gi.Pattern) (rel : List Name) (es : List (Name × Node))
    (hnd : (es.map (·.1)).Nodup) (k : Name) (ch : Node) (h : entGet es k = some ch)
    (hk : Gi.keeps ps (rel ++ [k]) ch.isDir = true) :
    entGet (pruneL ps rel es) k = some (Node.prune ps (rel ++ [k]) ch) :=
  entGet_of_mem _ (pruneL_nodup ps rel es hnd) (k, _) (pruneL_mem_of ps rel es k ch (entGet_mem h) hk)

theorem copyable_prune (ps : List Gi.Pattern) :
    ∀ (d : Nat) (n : Node), n.Copyable d → ∀ rel, (Node.prune ps rel n).Copyable d := by
  refine copyable_induction ?_ ?_
  · intro n d hnd hc rel
    rw [prune_nondir ps rel n hnd]
    exact hc
  · intro es d hnd _ ih rel
    simp only [Node.prune, Node.Copyable]
    refine ⟨pruneL_nodup ps rel es hnd, copyableL_of_mem ?_⟩
    intro e he
    obtain ⟨ch, h1, h2, _⟩ := pruneL_mem ps rel es e he
    rw [h2]
    exact ih (e.1, ch) h1 _

theorem getAt_prune (ps : List Gi.Pattern) :
    ∀ (q : List Name) (n : Node) (rel : List Name) (x : Node), n.WF →
      (Node.prune ps rel n).getAt q = some x →
      ∃ y, n.getAt q = some y ∧ x = Node.prune ps (rel ++ q) y := by
  intro q
  induction q with
  | nil =>
    intro n rel x _ h
    simp only [getAt_nil, Option.some.injEq] at h
    exact ⟨n, by simp, by simp [h]⟩
  | cons k q' ih =>
    intro n rel x hc h
    obtain ⟨es', c', he', hg', hx'⟩ := Node.getAt_cons_some h
    cases n with
    | dir es =>
      simp only [Node.prune, Node.dir.injEq] at he'
      subst he'
      obtain ⟨hnd, hch⟩ := (WF_dir es).1 hc
      obtain ⟨ch, h1, h2, _⟩ := entGet_pruneL ps rel es hnd k c' hg'
      subst h2
      obtain ⟨y, hy1, hy2⟩ := ih ch (rel ++ [k]) x (hch _ _ h1) hx'
      refine ⟨y, ?_, ?_⟩
      · rw [getAt_dir_cons, h1]; exact hy1
      · rw [hy2]; simp [List.append_assoc]
    | file _ => simp [Node.prune] at he'
    | link _ => simp [Node.prune] at he'
    | special _ _ => simp [Node.prune] at he'

theorem getAt_prune_leaf (ps : List Gi.Pattern) (q : List Name) (n : Node)
    (rel : List Name) (x : Node) (hc : n.WF) (h : (Node.prune ps rel n).getAt q = some x)
    (hx : x.isDir = false) : n.getAt q = some x := by
  obtain ⟨y, hy1, hy2⟩ := getAt_prune ps q n rel x hc h
  have hyd : y.isDir = false := by rw [← prune_isDir ps (rel ++ q) y, ← hy2]; exact hx
  rw [prune_nondir _ _ _ hyd] at hy2
  rw [hy2]; exact hy1

theorem getAt_prune_excluded (ps : List Gi.Pattern) (n : Node) (hc : n.WF)
    (rel q : List Name) (m : Name) (ch : Node) (s : List Name)
    (hch : n.getAt (q ++ [m]) = some ch)
    (hx : Gi.keeps ps (rel ++ q ++ [m]) ch.isDir = false) :
    (Node.prune ps rel n).getAt (q ++ [m] ++ s) = none := by
  cases hp : (Node.prune ps rel n).getAt (q ++ [m]) with
  | none => exact getAt_append_none _ _ _ hp
  | some x =>
    exfalso
    rw [Node.getAt_append] at hp
    cases hz : (Node.prune ps rel n).getAt q with
    | none => simp [hz] at hp
    | some z =>
      simp only [hz, Option.bind_some] at hp
      obtain ⟨y, hy1, hy2⟩ := getAt_prune ps q n rel z hc hz
      subst hy2
      rw [Node.getAt_append, hy1] at hch
      simp only [Option.bind_some] at hch
      obtain ⟨es, c, he, hg, hcc⟩ := Node.getAt_cons_some hch
      simp only [getAt_nil, Option.some.injEq] at hcc
      subst hcc; subst he
      have hnd : (es.map (·.1)).Nodup := hc q es hy1
      simp only [Node.prune, getAt_dir_cons] at hp
      cases hgp : entGet (pruneL ps (rel ++ q) es) m with
      | none => simp [hgp] at hp
      | some c' =>
        obtain ⟨ch', h1, _, h3⟩ := entGet_pruneL ps (rel ++ q) es hnd m c' hgp
        rw [hg] at h1
        injection h1 with h1
        subst h1
        rw [hx] at h3
        cases h3

mutual
theorem prune_nil : ∀ (n : Node) (rel : List Name), Node.prune [] rel n = n
  | .file _, _ => by simp [Node.prune]
  | .link _, _ => by simp [Node.prune]
  | .special _ _, _ => by simp [Node.prune]
  | .dir es, rel => by simp [Node.prune, pruneL_nil es rel]
theorem pruneL_nil : ∀ (es : List (Name × Node)) (rel : List Name), pruneL [] rel es = es
  | [], _ => by simp [pruneL]
  | (m, ch) :: r, rel => by
    rw [pruneL_cons_keep [] rel m ch r rfl, prune_nil ch (rel ++ [m]), pruneL_nil r rel]
end

/-- the filter lets the entry at `rel`, whose node is `n`, through: it is the root, or the patterns keep it -/
abbrev GiPass (ps : List Gi.Pattern) (rel : List Name) (n : Node) : Prop :=
  rel = [] ∨ Gi.keeps ps rel n.isDir = true

/-- without `--dereference` the flag handed to the pattern matcher is the entry's own type -/
theorem giIsDir_of_lstat (fs : Fs) (c : Cfg) (hd : c.dereference = false) (p : RPath) (cp : List Name) (n : Node)
    (hl : fs.lstat p = some (cp, n)) : giIsDir fs c p = n.isDir := by
  cases n <;> simp [giIsDir, hl, hd, Node.isDir]

theorem noClobber_probe_off {fs : Fs} {c : Cfg} {t : RPath} (h : c.noClobber = false ∨ fs.lexists t = false) :
    (c.noClobber && fs.lexists t) = false := by
  rcases h with h | h <;> simp [h]

theorem classifyKind_special {k : FileKind} (h : k = .socket ∨ k = .chr ∨ k = .fifo) :
    classifyKind k = .special := by
  rcases h with h | h | h <;> subst h <;> rfl

/-- one step of the walk without `--dereference`, for an entry that `lstat` finds, the filter lets through and the
`--no-clobber` probe does not stop: its own operation, then its children -/
theorem walkEntry_plain_step (fs : Fs) (c : Cfg) (gi : Ignore) (hd : c.dereference = false) (src tb : RPath)
    (rel : List Name) (f : Nat) (anc : List (List Name)) (cp : List Name) (n : Node)
    (hl : fs.lstat (relJoin src rel) = some (cp, n))
    (hdrop : giDrops fs c gi (relJoin src rel) rel = false)
    (hn : c.noClobber = false ∨ fs.lexists (relJoin tb rel) = false) :
    walkEntry fs c gi src tb (f + 1) rel anc =
      walkBelow fs c gi src tb f rel anc n (hereOps n (relJoin src rel) (relJoin tb rel))
        (descendOf n cp (followedOf fs c (relJoin src rel) rel.length n)) := by
  rw [walkEntry_succ]
  simp only [hl, hd, hdrop, noClobber_probe_off hn, Bool.and_false, Bool.false_and, Bool.false_eq_true, if_false]

theorem giDrops_pass (fs : Fs) (c : Cfg) (hd : c.dereference = false) (ps : List Gi.Pattern) (p : RPath)
    (rel cp : List Name) (n : Node) (hl : fs.lstat p = some (cp, n)) (hk : GiPass ps rel n) :
    giDrops fs c (some ps) p rel = false := by
  rw [giDrops, giIsDir_of_lstat fs c hd p cp n hl]
  rcases hk with h | h
  · subst h; rfl
  · simp [h]

theorem walkEntry_file_gi (fs : Fs) (c : Cfg) (ps : List Gi.Pattern) (hd : c.dereference = false) (src tb : RPath)
    (rel : List Name) (hn : c.noClobber = false ∨ fs.lexists (relJoin tb rel) = false)
    (f : Nat) (anc : List (List Name)) (cp : List Name) (k : Nat)
    (hk : GiPass ps rel (.file k))
    (hl : fs.lstat (relJoin src rel) = some (cp, .file k)) :
    walkEntry fs c (some ps) src tb (f + 1) rel anc = [.copy (relJoin src rel) (relJoin tb rel)] := by
  rw [walkEntry_plain_step fs c _ hd src tb rel f anc cp _ hl (giDrops_pass fs c hd ps _ rel cp _ hl hk) hn]
  rfl

theorem walkEntry_special_gi (fs : Fs) (c : Cfg) (ps : List Gi.Pattern) (hd : c.dereference = false) (src tb : RPath)
    (rel : List Name) (hn : c.noClobber = false ∨ fs.lexists (relJoin tb rel) = false)
    (f : Nat) (anc : List (List Name)) (cp : List Name) (k : FileKind) (d : Nat)
    (hkd : k = .socket ∨ k = .chr ∨ k = .fifo)
    (hk : GiPass ps rel (.special k d))
    (hl : fs.lstat (relJoin src rel) = some (cp, .special k d)) :
    walkEntry fs c (some ps) src tb (f + 1) rel anc = [.special (relJoin src rel) (relJoin tb rel)] := by
  rw [walkEntry_plain_step fs c _ hd src tb rel f anc cp _ hl (giDrops_pass fs c hd ps _ rel cp _ hl hk) hn]
  simp only [hereOps, Node.kind, classifyKind_special hkd, descendOf, walkBelow]

theorem walkEntry_link_gi (fs : Fs) (c : Cfg) (ps : List Gi.Pattern) (hd : c.dereference = false) (src tb : RPath)
    (rel : List Name) (hn : c.noClobber = false ∨ fs.lexists (relJoin tb rel) = false)
    (f : Nat) (anc : List (List Name)) (cp : List Name) (t : RPath)
    (hrel : rel ≠ [])
    (hk : GiPass ps rel (.link t))
    (hl : fs.lstat (relJoin src rel) = some (cp, .link t)) :
    walkEntry fs c (some ps) src tb (f + 1) rel anc = [.link t (relJoin tb rel)] := by
  rw [walkEntry_plain_step fs c _ hd src tb rel f anc cp _ hl (giDrops_pass fs c hd ps _ rel cp _ hl hk) hn]
  -- below the root a link is not followed, so nothing is descended into
  have h0 : (rel.length = 0) = False := by simpa using hrel
  simp only [followedOf, hd, Node.isLink, Bool.false_or, Bool.true_and, h0, decide_false, Bool.false_eq_true, if_false,
    descendOf, walkBelow]
  rfl

theorem walkEntry_dir_gi (fs : Fs) (c : Cfg) (ps : List Gi.Pattern) (hd : c.dereference = false) (src tb : RPath)
    (rel : List Name) (hn : c.noClobber = false ∨ fs.lexists (relJoin tb rel) = false)
    (f : Nat) (anc : List (List Name)) (cp : List Name) (es es' : Entries)
    (hk : GiPass ps rel (.dir es))
    (hl : fs.lstat (relJoin src rel) = some (cp, .dir es)) (hg : fs.root.getAt cp = some (.dir es')) :
    walkEntry fs c (some ps) src tb (f + 1) rel anc =
      .mkdir (relJoin tb rel) ::
        (es'.map (·.1)).flatMap fun n => walkEntry fs c (some ps) src tb f (rel ++ [n]) (cp :: anc) := by
  rw [walkEntry_plain_step fs c _ hd src tb rel f anc cp _ hl (giDrops_pass fs c hd ps _ rel cp _ hl hk) hn]
  simp only [descendOf, walkBelow, Node.isLink, Bool.false_and, Bool.false_eq_true, if_false, hg]
  rfl

theorem walkEntry_excluded_gi (fs : Fs) (c : Cfg) (ps : List Gi.Pattern) (hd : c.dereference = false) (src tb : RPath)
    (rel : List Name) (f : Nat) (anc : List (List Name)) (cp : List Name) (x : Node)
    (hrel : rel ≠ [])
    (hx : Gi.keeps ps rel x.isDir = false)
    (hl : fs.lstat (relJoin src rel) = some (cp, x)) :
    walkEntry fs c (some ps) src tb (f + 1) rel anc = [] := by
  have hpos : decide (rel.length > 0) = true := by
    cases rel with
    | nil => exact absurd rfl hrel
    | cons a l => simp
  have hdrop : giDrops fs c (some ps) (relJoin src rel) rel = true := by
    rw [giDrops, giIsDir_of_lstat fs c hd _ cp x hl, hx, hpos]
    rfl
  rw [walkEntry_succ]
  simp only [hl, hd, hdrop, Bool.and_false, Bool.false_and, Bool.false_eq_true, if_false, if_true]

theorem excluded_not_in_pruneL (ps : List Gi.Pattern) (rel : List Name) (es : List (Name × Node))
    (hnd : (es.map (·.1)).Nodup) (m : Name) (ch : Node) (hmem : (m, ch) ∈ es)
    (hx : Gi.keeps ps (rel ++ [m]) ch.isDir = false) : m ∉ (pruneL ps rel es).map (·.1) := by
  intro hin
  obtain ⟨e, he, hem⟩ := List.mem_map.1 hin
  obtain ⟨ch', h1, _, h3⟩ := pruneL_mem ps rel es e he
  rw [hem] at h1 h3
  have a := entGet_of_mem es hnd (m, ch) hmem
  have b := entGet_of_mem es hnd (m, ch') h1
  simp only at a b
  rw [a] at b
  injection b with b
  subst b
  rw [hx] at h3
  cases h3

end Xcp
