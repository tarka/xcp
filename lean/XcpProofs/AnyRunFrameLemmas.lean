import XcpProofs.L0Step
import XcpProofs.CopySpec
/-! # Lemmas for `AnyRunFrame`: what every reachable state of a run leaves untouched

An invariant of the file system alone (`FsInv`), for any operation list `ops` whose operations have plain targets, none
of which can put a symbolic link above another's target or source, and a set `P` of protected places (places no target
is at or above, and whose prefixes of a target exist initially): the tree is well-formed, no symbolic link is at or
above a target or source of an operation of the list (`Plains`), and every protected place is observed as initially.
A failed operation changes nothing (the models keep `fs`); a successful operation keeps the invariant (`exec_plain`).
Hence the invariant holds in every reachable state of the concurrent model — failed or not, complete or not — and
after the sequential execution, whatever its exit. -/
namespace Xcp

open L0

theorem noLinkUpto_append {r : Node} {T rel : List Name} (hT : NoLinkUpto r T)
    (hrel : ∀ q, q <+: rel → ∀ tg, r.getAt (T ++ q) ≠ some (.link tg)) : NoLinkUpto r (T ++ rel) := by
  intro p hp tg hgl
  by_cases hT' : T <+: p
  · obtain ⟨q, rfl⟩ := hT'
    exact hrel q ((List.prefix_append_right_inj T).1 hp) tg hgl
  · rcases List.prefix_or_prefix_of_prefix hp (List.prefix_append T rel) with h1 | h1
    · exact hT p h1 tg hgl
    · exact absurd h1 hT'

theorem plains_headOp (g : Fs) {m : Node} {cp t : List Name}
    (hsrc : m.isDir = false → m.isLink = false → g.root.getAt cp = some m) (hup : NoLinkUpto g.root t) :
    Plains g (headOp m cp t) := by
  refine ⟨?_, ?_⟩
  · intro t' ht
    rw [headOp_target] at ht
    rw [← Option.some.inj ht, plainPath_names]
    exact ⟨hup.above, fun _ => hup⟩
  · intro sp hs
    obtain ⟨e, hmd, hml⟩ := headOp_srcOf _ _ _ _ hs
    rw [e, plainPath_names]
    exact noLinkUpto_of_getAt (hsrc hmd hml) hml

theorem plains_init {ops : List Op} {E : Node} {T : List Name} (g : Fs)
    (hchar : ∀ x ∈ ops, ∃ rel m cp, E.getAt rel = some m ∧ x = headOp m cp (T ++ rel) ∧
      (m.isDir = false → m.isLink = false → g.root.getAt cp = some m))
    (hlT : NoLinkUpto g.root T)
    (hnl : ∀ rel m, E.getAt rel = some m → ∀ q, q <+: rel → ∀ tg, g.root.getAt (T ++ q) ≠ some (.link tg)) :
    ∀ x ∈ ops, Plains g x := by
  intro x hx
  obtain ⟨rel, m, cp, hg, ex, hlf⟩ := hchar x hx
  rw [ex]
  exact plains_headOp g hlf (noLinkUpto_append hlT (hnl rel m hg))

theorem exec_plain {ops : List Op} (hkeep : PairIndep ops ∨ ∀ x ∈ ops, isLinkOp x = false) (c : Cfg) {g g' : Fs}
    {x : Op} {t : List Name} (hx : x ∈ ops) (htgt : opTarget x = some (plainPath t)) (htne : t ≠ [])
    (hsrcs : ∀ s, srcOf x = some s → NamesOnly s) (hroot : g.root.isDir = true) (hwf : FsEq g g)
    (hpl : ∀ y ∈ ops, Plains g y) (he : execOp g c x = some g') :
    FsEq g' g' ∧ (∀ y ∈ ops, Plains g' y) ∧ Frame g g' x t := by
  have hop : OpPlain g x (plainPath t).names := opPlain_of_plains htgt (plainPath_namesOnly _) hsrcs (hpl x hx)
  have hF : Frame g g' x (plainPath t).names :=
    exec_frame c hop (by rw [plainPath_names]; exact htne) hroot hwf.2.1 he
  refine ⟨wf_exec hwf he, ?_, by rw [plainPath_names] at hF; exact hF⟩
  rcases hkeep with hPI | hnolink
  · exact plains_transfer hx hPI htgt hF hpl
  · -- no new link
    have claim : ∀ q tg, g'.root.getAt q = some (.link tg) → g.root.getAt q = some (.link tg) := by
      intro q tg hq
      rw [getAt_link_iff] at hq ⊢
      rcases hF.links q tg hq with h1 | ⟨h1, _⟩
      · exact h1
      · rw [hnolink x hx] at h1; cases h1
    intro y hy
    obtain ⟨p1, p2⟩ := hpl y hy
    refine ⟨?_, ?_⟩
    · intro t' ht'
      obtain ⟨a1, a2⟩ := p1 t' ht'
      exact ⟨fun p hp hne tg hg => a1 p hp hne tg (claim p tg hg),
        fun hnl p hp tg hg => a2 hnl p hp tg (claim p tg hg)⟩
    · intro s hs p hp tg hg
      exact p2 s hs p hp tg (claim p tg hg)

/-- the static facts needed of the list `ops` and the protected places `P`, relative to the initial state `fs0` -/
structure FrameSpec (fs0 : Fs) (ops : List Op) (P : List Name → Prop) : Prop where
  char : ∀ x ∈ ops, ∃ t, opTarget x = some (plainPath t) ∧ t ≠ [] ∧ (∀ s, srcOf x = some s → NamesOnly s) ∧
    ∀ q, P q → ¬ t <+: q ∧ (q <+: t → obsAt fs0.root q ≠ none)
  keep : PairIndep ops ∨ ∀ x ∈ ops, isLinkOp x = false
  root : P []
  rootDir : fs0.root.isDir = true

/-- what every reachable state `g` of a run over `ops` from `fs0` satisfies: well-formed, no symbolic link at or above a
target or source of an operation of the list, and the protected places observed as in `fs0` -/
structure FsInv (fs0 : Fs) (ops : List Op) (P : List Name → Prop) (g : Fs) : Prop where
  wf : FsEq g g
  plains : ∀ x ∈ ops, Plains g x
  frame : ∀ q, P q → obsAt g.root q = obsAt fs0.root q

theorem FsInv.isDir {fs0 : Fs} {ops : List Op} {P : List Name → Prop} {g : Fs} (h : FrameSpec fs0 ops P)
    (hinv : FsInv fs0 ops P g) : g.root.isDir = true := by
  have h0 := hinv.frame [] h.root
  rw [obsAt_nil, obsAt_nil] at h0
  rw [obs_isDir (Option.some.inj h0)]
  exact h.rootDir

theorem FsInv.exec {fs0 : Fs} {ops : List Op} {P : List Name → Prop} (h : FrameSpec fs0 ops P) (c : Cfg)
    (g g' : Fs) (x : Op) (hx : x ∈ ops) (hinv : FsInv fs0 ops P g) (he : execOp g c x = some g') :
    FsInv fs0 ops P g' := by
  obtain ⟨t, htgt, htne, hsrcs, hP⟩ := h.char x hx
  obtain ⟨hwf', hpl', hF⟩ := exec_plain h.keep c hx htgt htne hsrcs (hinv.isDir h) hinv.wf hinv.plains he
  refine ⟨hwf', hpl', ?_⟩
  intro q hq
  obtain ⟨h1, h2⟩ := hP q hq
  rw [← hinv.frame q hq]
  apply hF.out q h1
  by_cases hqt : q <+: t
  · right
    rw [hinv.frame q hq]
    exact h2 hqt
  · exact .inl hqt

theorem FsInv.execOps {fs0 : Fs} {ops : List Op} {P : List Name → Prop} (h : FrameSpec fs0 ops P) (c : Cfg)
    (hinv : FsInv fs0 ops P fs0) : FsInv fs0 ops P (Xcp.execOps fs0 c ops).fs :=
  execOps_fs_inv c (FsInv fs0 ops P) ops (FsInv.exec h c) ops (fun _ h => h) fs0 hinv

theorem FsInv.run {fs0 : Fs} {ops : List Op} {P : List Name → Prop} (h : FrameSpec fs0 ops P) (c : Cfg)
    (hinv : FsInv fs0 ops P fs0) (ls : List Label) (s : St) (hrun : L0.run c (L0.init fs0 ops) ls = some s) :
    FsInv fs0 ops P s.fs :=
  (run_fs_inv c (FsInv fs0 ops P) ops (FsInv.exec h c) ls (L0.init fs0 ops) s ⟨hinv, fun _ h => h⟩ hrun).1

theorem isDir_of_getAt_dir {r : Node} {p : List Name} {es : Entries} (h : r.getAt p = some (.dir es)) :
    r.isDir = true := by
  obtain ⟨es', hes'⟩ := getAt_prefix_dir h List.nil_prefix
  rw [getAt_nil] at hes'
  rw [Option.some.inj hes']
  rfl

theorem frameSpec_of_bases {fs0 : Fs} {ops : List Op} {P : List Name → Prop} (Ts : List (List Name))
    (hT : ∀ T ∈ Ts, ∃ es, fs0.root.getAt T.dropLast = some (.dir es))
    (hP : ∀ q, P q → ∀ T ∈ Ts, ¬ T <+: q) (hP0 : P [])
    (hchar : ∀ x ∈ ops, ∃ T ∈ Ts, ∃ rel m cp, x = headOp m cp (T ++ rel))
    (hkeep : PairIndep ops ∨ ∀ x ∈ ops, isLinkOp x = false) (hroot : fs0.root.isDir = true) :
    FrameSpec fs0 ops P where
  char := by
    intro x hx
    obtain ⟨T, hTm, rel, m, cp, ex⟩ := hchar x hx
    have hTne : T ≠ [] := fun e => hP [] hP0 T hTm (e ▸ List.prefix_refl _)
    refine ⟨T ++ rel, by rw [ex, headOp_target], fun h0 => hTne (List.append_eq_nil_iff.1 h0).1, ?_, ?_⟩
    · intro s hs
      rw [ex] at hs
      rw [(headOp_srcOf _ _ _ _ hs).1]
      exact plainPath_namesOnly _
    · intro q hq
      have hqT := hP q hq T hTm
      refine ⟨fun hp => hqT ((List.prefix_append T rel).trans hp), ?_⟩
      intro hqt
      have hqT' : q <+: T := by
        rcases List.prefix_or_prefix_of_prefix hqt (List.prefix_append T rel) with h1 | h1
        · exact h1
        · exact absurd h1 hqT
      obtain ⟨es, hes⟩ := hT T hTm
      obtain ⟨y, hy⟩ := getAt_prefix_some hes (prefix_dropLast_of_ne hqT' (fun e => hqT (e ▸ List.prefix_refl _)))
      exact obsAt_ne_none hy
  keep := hkeep
  root := hP0
  rootDir := hroot

theorem tree_frame_setup {ops : List Op} {E : Node} {T : List Name} (fs : Fs) (hwf : FsEq fs fs)
    (hchar : ∀ x ∈ ops, ∃ rel m cp, E.getAt rel = some m ∧ x = headOp m cp (T ++ rel) ∧
      (m.isDir = false → m.isLink = false → fs.root.getAt cp = some m))
    (hkeep : PairIndep ops ∨ ∀ x ∈ ops, isLinkOp x = false)
    (hne : T ≠ []) (hpar : ∃ es, fs.root.getAt T.dropLast = some (.dir es))
    (hnl : ∀ rel m, E.getAt rel = some m → ∀ q, q <+: rel → ∀ tg, fs.root.getAt (T ++ q) ≠ some (.link tg)) :
    FrameSpec fs ops (fun q => ¬ T <+: q) ∧ FsInv fs ops (fun q => ¬ T <+: q) fs := by
  have hroot : fs.root.isDir = true := hpar.elim fun _ h => isDir_of_getAt_dir h
  -- above `T` there are directories, at `T` the position of `E` itself
  have hlT : NoLinkUpto fs.root T := by
    intro p hp tg hgl
    by_cases hpe : p = T
    · rw [hpe] at hgl
      exact hnl [] E rfl [] List.nil_prefix tg (by rw [List.append_nil]; exact hgl)
    · obtain ⟨es, hes⟩ := hpar
      obtain ⟨es', hes'⟩ := getAt_prefix_dir hes (prefix_dropLast_of_ne hp hpe)
      rw [hes'] at hgl
      cases hgl
  refine ⟨frameSpec_of_bases [T] (fun T' hT' => by rw [List.mem_singleton.1 hT']; exact hpar)
    (fun q hq T' hT' => by rw [List.mem_singleton.1 hT']; exact hq) (fun hp => hne (List.prefix_nil.1 hp)) ?_ hkeep
    hroot, hwf, plains_init fs hchar hlT hnl, fun _ _ => rfl⟩
  intro x hx
  obtain ⟨rel, m, cp, _, ex, _⟩ := hchar x hx
  exact ⟨T, List.mem_singleton.2 rfl, rel, m, cp, ex⟩

end Xcp
