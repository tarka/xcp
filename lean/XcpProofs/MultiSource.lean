import XcpProofs.Overlay
import XcpProofs.FoldRun
/-! # Several sources in one run

`xcp -r s1 … sn DEST/` with `DEST` an existing directory: `runSources` handles the sources in argv order, each
`target_base` (`DEST/basename(si)`) being computed against the file system left by the previous sources.  With
pairwise distinct base names, sources unrelated to every target, and every target compatible with its source tree in
the initial file system, the run succeeds and the result is the initial tree with each target overlaid with its
source tree: a fold (`foldRun_overlay`) of exact single-source steps (`exec_place`). -/
namespace Xcp

theorem sibling_unrel (dn : List Name) {b b' : Name} (h : b ≠ b') : ¬ dn ++ [b] <+: dn ++ [b'] := by
  intro hp
  rcases List.prefix_concat_iff.1 hp with e | hp'
  · have := List.append_cancel_left e
    simp only [List.cons.injEq, and_true] at this
    exact h this
  · have := hp'.length_le
    simp only [List.length_append, List.length_cons, List.length_nil] at this
    omega

theorem child_not_prefix (dn : List Name) (b : Name) : ¬ dn ++ [b] <+: dn := by
  intro hp
  have := hp.length_le
  simp only [List.length_append, List.length_cons, List.length_nil] at this
  omega

/-- `g` agrees with `fs` off the targets `Ts`: whatever is unrelated to every target is the same; whatever is not at or
below a target is the same or a directory in both (an ancestor of a target gains entries) -/
structure AgreeOff (fs g : Fs) (Ts : List (List Name)) : Prop where
  above : ∀ q, (∀ T ∈ Ts, ¬ T <+: q) → DirOrSame (fs.root.getAt q) (g.root.getAt q)
  unrel : ∀ q, (∀ T ∈ Ts, ¬ T <+: q ∧ ¬ q <+: T) → g.root.getAt q = fs.root.getAt q

theorem AgreeOff.refl (fs : Fs) (Ts : List (List Name)) : AgreeOff fs fs Ts :=
  ⟨fun _ _ => DirOrSame.refl _, fun _ _ => rfl⟩

theorem AgreeOff.placeAt {fs g : Fs} {Ts : List (List Name)} (h : AgreeOff fs g Ts) {T : List Name} (hT : T ∈ Ts)
    (dst : Option Node) (n : Node) : AgreeOff fs { g with root := Xcp.placeAt g.root T dst n } Ts := by
  refine ⟨?_, ?_⟩
  · intro q hq
    refine DirOrSame.trans (h.above q hq) ?_
    show DirOrSame (g.root.getAt q) ((Xcp.placeAt g.root T dst n).getAt q)
    by_cases hqT : q <+: T
    · have hne : q ≠ T := fun e => hq T hT (e ▸ List.prefix_refl _)
      unfold Xcp.placeAt
      split
      · exact DirOrSame.trans (getAt_delAt_ancestor _ _ _ hqT hne) (getAt_setAt_ancestor _ _ _ _ hqT hne)
      · exact getAt_setAt_ancestor _ _ _ _ hqT hne
    · rw [placeAt_getAt_unrelated _ _ _ _ _ (hq T hT) hqT]
      exact DirOrSame.refl _
  · intro q hq
    show (Xcp.placeAt g.root T dst n).getAt q = _
    rw [placeAt_getAt_unrelated _ _ _ _ _ (hq T hT).1 (hq T hT).2]
    exact h.unrel q hq

theorem AgreeOff.dir {fs g : Fs} {Ts : List (List Name)} (h : AgreeOff fs g Ts) {q : List Name} {es : Entries}
    (hq : fs.root.getAt q = some (.dir es)) (hTs : ∀ T ∈ Ts, ¬ T <+: q) : ∃ es', g.root.getAt q = some (.dir es') := by
  rcases h.above q hTs with he | ⟨_, es', _, hg⟩
  · exact ⟨es, he.trans hq⟩
  · exact ⟨es', hg⟩

theorem AgreeOff.obsAt {fs g : Fs} {Ts : List (List Name)} (h : AgreeOff fs g Ts) {q : List Name}
    (hq : ∀ T ∈ Ts, ¬ T <+: q) : Xcp.obsAt g.root q = Xcp.obsAt fs.root q :=
  obs_of_dirOrSame (h.above q hq)

/-- the state between two sources: `g` is a well-formed state of a run that started in `fs0` and writes at the targets
`Ts` only, and the targets `R` (of the sources still to come) have not been written yet -/
structure Ready (fs0 : Fs) (Ts R : List (List Name)) (g : Fs) : Prop where
  wf : FsEq g g
  off : AgreeOff fs0 g Ts
  rest : ∀ T ∈ R, g.root.getAt T = fs0.root.getAt T

theorem Ready.init {fs : Fs} (h : FsEq fs fs) (Ts R : List (List Name)) : Ready fs Ts R fs :=
  ⟨h, AgreeOff.refl fs Ts, fun _ _ => rfl⟩

theorem Ready.head {fs0 g : Fs} {Ts R : List (List Name)} {T : List Name} (h : Ready fs0 Ts (T :: R) g) :
    Ready fs0 Ts [T] g :=
  ⟨h.wf, h.off, fun T' hT' => by rw [List.mem_singleton.1 hT']; exact h.rest T List.mem_cons_self⟩

theorem Ready.step {fs0 g : Fs} {Ts R : List (List Name)} {T : List Name} (h : Ready fs0 Ts (T :: R) g) (hT : T ∈ Ts)
    (hun : ∀ T' ∈ R, ¬ T <+: T' ∧ ¬ T' <+: T) (dst : Option Node) (n : Node) (hv : (Node.overlay dst n).WF) :
    Ready fs0 Ts R { g with root := placeAt g.root T dst n } := by
  have hw := placeAt_WF g.root T dst n h.wf.2.1 hv
  refine ⟨⟨rfl, hw, hw, SameObs.refl _⟩, h.off.placeAt hT dst n, ?_⟩
  intro T' hT'
  show (placeAt g.root T dst n).getAt T' = _
  rw [placeAt_getAt_unrelated _ _ _ _ _ (hun T' hT').1 (hun T' hT').2]
  exact h.rest T' (List.mem_cons_of_mem _ hT')

theorem walkFuel_eq : walkFuel = 63 + 1 := rfl


theorem lastOf_of_fileName {s : RPath} {b : Name} (h : s.fileName = some b) : lastOf s.comps = some (.name b) := by
  unfold RPath.fileName at h
  split at h
  · rename_i n hl
    simp only [Option.some.injEq] at h
    subst h
    exact hl
  · cases h

theorem targetBase_dir (g : Fs) (c : Cfg) (hnt : c.noTargetDir = false) (dn : List Name) (es : Entries)
    (s : RPath) (b : Name) (hb : s.fileName = some b) (hlen : dn.length < 256)
    (hg : g.root.getAt dn = some (.dir es)) :
    targetBase g c (plainPath dn) s = some (plainPath (dn ++ [b])) := by
  have hs := stat_of_getAt g dn _ (le_256_of_lt hlen) hg rfl
  have hl := lastOf_of_fileName hb
  have hex : g.exists (plainPath dn) = true := by simp [Fs.exists, hs]
  have hisd : g.isDir (plainPath dn) = true := by simp [Fs.isDir, hs, Node.isDir]
  have hj : (plainPath dn).join ⟨false, [.name b], false⟩ = plainPath (dn ++ [b]) := by
    simp [RPath.join, plainPath]
  simp [targetBase, RPath.lastComp, hl, hex, hisd, hnt, hj]

theorem parseIgnore_off (g : Fs) (c : Cfg) (texts : GiTexts) (s : RPath) (hg : c.gitignore = false) :
    parseIgnore g c texts s = none := by
  simp [parseIgnore, hg]

/-- one source: the path as spelled, its base name, and the tree it designates -/
structure CopySrc where
  path : RPath
  base : Name
  node : Node

/-- the initial tree `root0` decides what each target is overlaid onto; the overlays are applied to `r` in order -/
def overlayAll (root0 : Node) (dn : List Name) : List CopySrc → Node → Node
  | [], r => r
  | e :: rest, r =>
    overlayAll root0 dn rest (r.setAt (dn ++ [e.base]) (Node.overlay (root0.getAt (dn ++ [e.base])) e.node))

/-- fresh targets: each source tree is placed under its base name -/
def placeAll (dn : List Name) : List CopySrc → Node → Node
  | [], r => r
  | e :: rest, r => placeAll dn rest (r.setAt (dn ++ [e.base]) e.node)

theorem overlayAll_sameObs (root0 : Node) (dn : List Name) : ∀ (items : List CopySrc) (r r' : Node),
    SameObs r r' → SameObs (overlayAll root0 dn items r) (overlayAll root0 dn items r') := by
  intro items
  induction items with
  | nil => intro r r' h; exact h
  | cons e rest ih =>
    intro r r' h
    simp only [overlayAll]
    exact ih _ _ (setAt_sameObs _ _ _ _ h)

theorem overlayAll_WF (root0 : Node) (dn : List Name) : ∀ (items : List CopySrc) (r : Node), r.WF →
    (∀ e ∈ items, (Node.overlay (root0.getAt (dn ++ [e.base])) e.node).WF) →
    (overlayAll root0 dn items r).WF := by
  intro items
  induction items with
  | nil => intro r h _; exact h
  | cons e rest ih =>
    intro r h hv
    simp only [overlayAll]
    exact ih _ (setAt_WF _ (hv e List.mem_cons_self) _ _ h) (fun e' he' => hv e' (List.mem_cons_of_mem _ he'))

theorem overlayAll_fresh (root0 : Node) (dn : List Name) : ∀ (items : List CopySrc) (r : Node),
    (∀ e ∈ items, root0.getAt (dn ++ [e.base]) = none) → overlayAll root0 dn items r = placeAll dn items r := by
  intro items
  induction items with
  | nil => intro r _; rfl
  | cons e rest ih =>
    intro r h
    simp only [overlayAll, placeAll]
    rw [h e List.mem_cons_self, overlay_none]
    exact ih _ (fun e' he' => h e' (List.mem_cons_of_mem _ he'))

theorem overlayAll_getAt_unrelated (root0 : Node) (dn q : List Name) : ∀ (items : List CopySrc) (r : Node),
    (∀ e ∈ items, ¬ dn ++ [e.base] <+: q ∧ ¬ q <+: dn ++ [e.base]) →
    (overlayAll root0 dn items r).getAt q = r.getAt q := by
  intro items
  induction items with
  | nil => intro r _; rfl
  | cons e rest ih =>
    intro r h
    simp only [overlayAll]
    have he := h e List.mem_cons_self
    rw [ih _ (fun e' he' => h e' (List.mem_cons_of_mem _ he')), getAt_setAt_unrelated _ _ _ _ he.1 he.2]

theorem overlayAll_getAt_target (root0 : Node) (dn : List Name) : ∀ (items : List CopySrc) (r : Node),
    (items.map (·.base)).Nodup → (∃ es, r.getAt dn = some (.dir es)) →
    ∀ e ∈ items, (overlayAll root0 dn items r).getAt (dn ++ [e.base]) =
      some (Node.overlay (root0.getAt (dn ++ [e.base])) e.node) := by
  intro items
  induction items with
  | nil => intro r _ _ e he; cases he
  | cons a rest ih =>
    intro r hnd hdd e he
    obtain ⟨es, hes⟩ := hdd
    simp only [List.map_cons, List.nodup_cons] at hnd
    simp only [overlayAll]
    cases he with
    | head =>
      rw [overlayAll_getAt_unrelated root0 dn _ rest]
      · exact getAt_setAt_child _ _ dn r es hes
      · intro e' he'
        have hne : e'.base ≠ a.base := by
          intro h
          apply hnd.1
          rw [← h]
          exact List.mem_map.2 ⟨e', he', rfl⟩
        exact ⟨sibling_unrel dn hne, sibling_unrel dn (Ne.symm hne)⟩
    | tail _ he' =>
      apply ih _ hnd.2 _ e he'
      rw [setAt_child r dn a.base es _ hes]
      exact ⟨_, getAt_setAt_exists r dn _ _ hes⟩

theorem overlayAll_out (root0 : Node) (dn q : List Name) : ∀ (items : List CopySrc) (r : Node),
    (∀ e ∈ items, ¬ dn ++ [e.base] <+: q) → obsAt (overlayAll root0 dn items r) q = obsAt r q := by
  intro items
  induction items with
  | nil => intro r _; rfl
  | cons e rest ih =>
    intro r h
    simp only [overlayAll]
    rw [ih _ (fun e' he' => h e' (List.mem_cons_of_mem _ he')), setAt_out _ _ _ _ (h e List.mem_cons_self)]

theorem overlayAll_reads (root r' : Node) (dn : List Name) (items : List CopySrc)
    (heq : SameObs r' (overlayAll root dn items root))
    (hdd : ∃ es, root.getAt dn = some (.dir es)) (hnd : (items.map (·.base)).Nodup) :
    (∀ e ∈ items, obsAt r' (dn ++ [e.base]) = some (Node.overlay (root.getAt (dn ++ [e.base])) e.node).obs) ∧
    ∀ q, (∀ e ∈ items, ¬ dn ++ [e.base] <+: q ∧ ¬ q <+: dn ++ [e.base]) → obsAt r' q = obsAt root q := by
  constructor
  · intro e he
    rw [heq (dn ++ [e.base])]
    simp only [obsAt]
    rw [overlayAll_getAt_target root dn items root hnd hdd e he]
    rfl
  · intro q hq
    rw [heq q]
    simp only [obsAt]
    rw [overlayAll_getAt_unrelated root dn q items root hq]

/-! ## The induction over the items

The items are of any type `α` with a `CopySrc` to each (`cp`), run by any one-item runner `run1`; `fs0` is the initial
state and `Ts` the targets of all items.  What is asked of `run1` is the single-source theorem: from a state `Ready`
for the item, a compatible item is laid at its target exactly (`placeAt`). -/

section Fold

variable {α : Type} (cp : α → CopySrc) (run1 : Fs → α → Outcome) (fs0 : Fs) (dn : List Name)
  (Ts : List (List Name))

/-- the single-source theorem for `run1`, for the item `a` -/
def ExactStep (a : α) : Prop :=
  ∀ g, Ready fs0 Ts [dn ++ [(cp a).base]] g → Compatible (fs0.root.getAt (dn ++ [(cp a).base])) (cp a).node →
    run1 g a = ⟨.ok,
      { g with root := placeAt g.root (dn ++ [(cp a).base]) (g.root.getAt (dn ++ [(cp a).base])) (cp a).node }⟩

variable {cp} {run1} {fs0} {dn} {Ts}

theorem Ready.next {a : α} {rest : List α} {g : Fs}
    (h : Ready fs0 Ts ((dn ++ [(cp a).base]) :: rest.map fun b => dn ++ [(cp b).base]) g)
    (hT : dn ++ [(cp a).base] ∈ Ts) (hnd : (cp a).base ∉ (rest.map cp).map (·.base))
    (hv : (Node.overlay (fs0.root.getAt (dn ++ [(cp a).base])) (cp a).node).WF) :
    Ready fs0 Ts (rest.map fun b => dn ++ [(cp b).base])
      { g with root := placeAt g.root (dn ++ [(cp a).base]) (g.root.getAt (dn ++ [(cp a).base])) (cp a).node } := by
  refine h.step hT ?_ _ _ (by rw [h.rest _ List.mem_cons_self]; exact hv)
  intro T' hT'
  obtain ⟨b, hb, rfl⟩ := List.mem_map.1 hT'
  have hne : (cp a).base ≠ (cp b).base :=
    fun e => hnd (List.mem_map.2 ⟨cp b, List.mem_map_of_mem hb, e.symm⟩)
  exact ⟨sibling_unrel dn hne, sibling_unrel dn (Ne.symm hne)⟩

theorem foldRun_overlay {es0 : Entries} (hdd : fs0.root.getAt dn = some (.dir es0))
    (hTs : ∀ T ∈ Ts, ¬ T <+: dn) :
    ∀ (items : List α) (g : Fs), ((items.map cp).map (·.base)).Nodup →
      (∀ a ∈ items, dn ++ [(cp a).base] ∈ Ts) →
      (∀ a ∈ items, (Node.overlay (fs0.root.getAt (dn ++ [(cp a).base])) (cp a).node).WF) →
      (∀ a ∈ items, Compatible (fs0.root.getAt (dn ++ [(cp a).base])) (cp a).node) →
      (∀ a ∈ items, ExactStep cp run1 fs0 dn Ts a) →
      Ready fs0 Ts (items.map fun a => dn ++ [(cp a).base]) g →
      ∃ fs', foldRun run1 g items = ⟨.ok, fs'⟩ ∧
        FsEq fs' { g with root := overlayAll fs0.root dn (items.map cp) g.root } := by
  intro items
  induction items with
  | nil =>
    intro g _ _ _ _ _ h
    exact ⟨g, rfl, h.wf⟩
  | cons e rest ih =>
    intro g hnd hmem hv hcomp h1 h
    simp only [List.map_cons, List.nodup_cons] at hnd
    have hrun := h1 e List.mem_cons_self g h.head (hcomp e List.mem_cons_self)
    obtain ⟨fs', hr', heq'⟩ := ih _ hnd.2 (fun a ha => hmem a (List.mem_cons_of_mem _ ha))
      (fun a ha => hv a (List.mem_cons_of_mem _ ha)) (fun a ha => hcomp a (List.mem_cons_of_mem _ ha))
      (fun a ha => h1 a (List.mem_cons_of_mem _ ha))
      (h.next (hmem e List.mem_cons_self) hnd.1 (hv e List.mem_cons_self))
    refine ⟨fs', by rw [foldRun_cons_ok hrun]; exact hr', ?_⟩
    -- the state the first item leaves is its overlay up to the order of entries
    obtain ⟨es, hes⟩ := h.off.dir hdd hTs
    have hsame : SameObs
        (placeAt g.root (dn ++ [(cp e).base]) (g.root.getAt (dn ++ [(cp e).base])) (cp e).node)
        (g.root.setAt (dn ++ [(cp e).base])
          (Node.overlay (fs0.root.getAt (dn ++ [(cp e).base])) (cp e).node)) := by
      rw [← h.rest _ List.mem_cons_self]
      exact sameObs_placeAt g.root dn (cp e).base es hes _ (cp e).node
    refine FsEq.trans heq' ⟨rfl, heq'.2.2.1, ?_, overlayAll_sameObs fs0.root dn (rest.map cp) _ _ hsame⟩
    apply overlayAll_WF fs0.root dn ((e :: rest).map cp) g.root h.wf.2.1
    intro x hx
    obtain ⟨a, ha, rfl⟩ := List.mem_map.1 hx
    exact hv a ha

theorem foldRun_clash :
    ∀ (items : List α) (g : Fs), ((items.map cp).map (·.base)).Nodup →
      (∀ a ∈ items, dn ++ [(cp a).base] ∈ Ts) →
      (∀ a ∈ items, (Node.overlay (fs0.root.getAt (dn ++ [(cp a).base])) (cp a).node).WF) →
      (∀ a ∈ items, ExactStep cp run1 fs0 dn Ts a) →
      (∀ a ∈ items, ∀ g, Ready fs0 Ts [dn ++ [(cp a).base]] g →
        ¬ Compatible (fs0.root.getAt (dn ++ [(cp a).base])) (cp a).node → (run1 g a).exit = .err) →
      Ready fs0 Ts (items.map fun a => dn ++ [(cp a).base]) g →
      (∃ a ∈ items, ¬ Compatible (fs0.root.getAt (dn ++ [(cp a).base])) (cp a).node) →
      (foldRun run1 g items).exit = .err := by
  intro items
  induction items with
  | nil =>
    intro g _ _ _ _ _ _ hcl
    obtain ⟨a, ha, _⟩ := hcl
    cases ha
  | cons e rest ih =>
    intro g hnd hmem hv h1 h2 h hcl
    simp only [List.map_cons, List.nodup_cons] at hnd
    by_cases hce : Compatible (fs0.root.getAt (dn ++ [(cp e).base])) (cp e).node
    · rw [foldRun_cons_ok (h1 e List.mem_cons_self g h.head hce)]
      apply ih _ hnd.2 (fun a ha => hmem a (List.mem_cons_of_mem _ ha))
        (fun a ha => hv a (List.mem_cons_of_mem _ ha)) (fun a ha => h1 a (List.mem_cons_of_mem _ ha))
        (fun a ha => h2 a (List.mem_cons_of_mem _ ha))
        (h.next (hmem e List.mem_cons_self) hnd.1 (hv e List.mem_cons_self))
      obtain ⟨a, ha, hna⟩ := hcl
      rcases List.mem_cons.1 ha with rfl | ha'
      · exact absurd hce hna
      · exact ⟨a, ha', hna⟩
    · have hfail := h2 e List.mem_cons_self g h.head hce
      rw [foldRun_cons_err hfail]
      exact hfail

theorem foldRun_frame :
    ∀ (items : List α) (g : Fs), ((items.map cp).map (·.base)).Nodup →
      (∀ a ∈ items, dn ++ [(cp a).base] ∈ Ts) →
      (∀ a ∈ items, (Node.overlay (fs0.root.getAt (dn ++ [(cp a).base])) (cp a).node).WF) →
      (∀ a ∈ items, ExactStep cp run1 fs0 dn Ts a) →
      (∀ a ∈ items, ∀ g, Ready fs0 Ts [dn ++ [(cp a).base]] g →
        ¬ Compatible (fs0.root.getAt (dn ++ [(cp a).base])) (cp a).node → (run1 g a).exit = .err ∧
          ∀ q, ¬ dn ++ [(cp a).base] <+: q → obsAt (run1 g a).fs.root q = obsAt g.root q) →
      Ready fs0 Ts (items.map fun a => dn ++ [(cp a).base]) g →
      ∀ q, (∀ T ∈ Ts, ¬ T <+: q) → obsAt (foldRun run1 g items).fs.root q = obsAt fs0.root q := by
  intro items
  induction items with
  | nil =>
    intro g _ _ _ _ _ h q hq
    exact h.off.obsAt hq
  | cons e rest ih =>
    intro g hnd hmem hv h1 h2 h q hq
    simp only [List.map_cons, List.nodup_cons] at hnd
    by_cases hce : Compatible (fs0.root.getAt (dn ++ [(cp e).base])) (cp e).node
    · rw [foldRun_cons_ok (h1 e List.mem_cons_self g h.head hce)]
      exact ih _ hnd.2 (fun a ha => hmem a (List.mem_cons_of_mem _ ha))
        (fun a ha => hv a (List.mem_cons_of_mem _ ha)) (fun a ha => h1 a (List.mem_cons_of_mem _ ha))
        (fun a ha => h2 a (List.mem_cons_of_mem _ ha))
        (h.next (hmem e List.mem_cons_self) hnd.1 (hv e List.mem_cons_self)) q hq
    · obtain ⟨hfail, hfr⟩ := h2 e List.mem_cons_self g h.head hce
      rw [foldRun_cons_err hfail, hfr q (hq _ (hmem e List.mem_cons_self))]
      exact h.off.obsAt hq

end Fold

/-- the operations of an item's tree, whose leaves are read from below the item's path (`ReadsFrom`), run from a
`Ready` state, are an exact overlay step (`exec_place`) -/
theorem exactStep_opsOf {α : Type} (cp : α → CopySrc) (c : Cfg) {fs0 : Fs}
    {dn : List Name} {Ts : List (List Name)} {es0 : Entries} (hdd : fs0.root.getAt dn = some (.dir es0))
    (hTs : ∀ T ∈ Ts, ¬ T <+: dn) (a : α) {d : Nat}
    (hn : c.noClobber = false ∨ fs0.root.getAt (dn ++ [(cp a).base]) = none)
    (hread : ReadsFrom fs0.root (cp a).path.names (cp a).node) (hcop : (cp a).node.Copyable d)
    (hun : ∀ T ∈ Ts, ¬ T <+: (cp a).path.names ∧ ¬ (cp a).path.names <+: T) (hT : dn ++ [(cp a).base] ∈ Ts)
    (hl : (cp a).path.names.length + d < 256) (hdl : dn.length + 1 + d < 256) :
    ExactStep cp (fun g a => execOps g c (opsOf (cp a).node (cp a).path.names (dn ++ [(cp a).base]))) fs0 dn Ts a := by
  intro g h hcomp
  obtain ⟨es, hes⟩ := h.off.dir hdd hTs
  have hread' : ReadsFrom g.root (cp a).path.names (cp a).node := fun rel x hx hxd => by
    rw [h.off.unrel _ (fun T hT => ((L0.Unrel.symm (hun T hT)).ext rel).symm)]
    exact hread rel x hx hxd
  have hexec := exec_place c d (cp a).node hcop g (cp a).path.names dn (cp a).base es [] hread' hes
    (fun x hx => ⟨hn.resolve_right (by rw [← h.rest (dn ++ [(cp a).base]) List.mem_cons_self, hx]; exact fun e => by cases e),
      h.wf.2.1 dn es hes, subtree_WF h.wf.2.1 hx⟩)
    (by rw [h.rest (dn ++ [(cp a).base]) List.mem_cons_self]; exact hcomp) (L0.Unrel.symm (hun _ hT)) hl hdl
  rw [List.append_nil] at hexec
  exact hexec

/-- the standing hypotheses on the sources and the destination directory of `xcp -r s1 … sn DEST/`: every source is a
plain path with base name `e.base` designating the tree `e.node`, copyable and less than `walkFuel` levels deep; the
base names are pairwise distinct; no source is inside (or above) any target `dest/b`; paths are short enough for the
resolution fuel.

The single-source lemmas run the walk with fuel `d + 1` for a tree copyable to depth `d`; the program's walk has the
fixed fuel `walkFuel = 63 + 1`.  `depth` is used only to lift every tree to depth 63 (`copyable_mono`, in
`plainSrc_norm`), so that the fixed fuel is `d + 1` for all of them. -/
structure MultiHyp (fs : Fs) (dest : RPath) (items : List CopySrc) (fuel : Nat) : Prop where
  wf : FsEq fs fs
  dd : ∃ es, fs.root.getAt dest.names = some (.dir es)
  depth : fuel < walkFuel
  src : ∀ e ∈ items, PlainTarget fs e.path ∧ e.path.fileName = some e.base ∧
    fs.root.getAt e.path.names = some e.node ∧ e.node.Copyable fuel ∧ e.path.names.length + walkFuel < 256
  nd : (items.map (·.base)).Nodup
  un : ∀ e ∈ items, ∀ e' ∈ items,
    ¬ e.path.names <+: dest.names ++ [e'.base] ∧ ¬ dest.names ++ [e'.base] <+: e.path.names
  len : dest.names.length + 1 + walkFuel < 256

theorem plainSrc_norm {fs : Fs} {p : RPath} {b : Name} {n : Node} {fuel : Nat} (hfuel : fuel < walkFuel)
    (h : PlainTarget fs p ∧ p.fileName = some b ∧ fs.root.getAt p.names = some n ∧ n.Copyable fuel ∧
      p.names.length + walkFuel < 256) :
    p = plainPath p.names ∧ p.fileName = some b ∧ fs.root.getAt p.names = some n ∧ n.isLink = false ∧
      n.Copyable 63 ∧ p.names.length + 63 < 256 := by
  obtain ⟨hp, hfn, hsn, hcop, hl⟩ := h
  rw [walkFuel_eq] at hl hfuel
  exact ⟨plainTarget_eq fs p hp, hfn, hsn, hp.not_link hsn, copyable_mono hcop (by omega), by omega⟩

theorem MultiHyp.item {fs : Fs} {dest : RPath} {items : List CopySrc} {fuel : Nat} (H : MultiHyp fs dest items fuel)
    {e : CopySrc} (he : e ∈ items) :
    e.path = plainPath e.path.names ∧ e.path.fileName = some e.base ∧ fs.root.getAt e.path.names = some e.node ∧
      e.node.isLink = false ∧ e.node.Copyable 63 ∧ e.path.names.length + 63 < 256 :=
  plainSrc_norm H.depth (H.src e he)

theorem MultiHyp.destLen {fs : Fs} {dest : RPath} {items : List CopySrc} {fuel : Nat}
    (H : MultiHyp fs dest items fuel) : dest.names.length + 1 + 63 < 256 := by
  have := H.len
  rw [walkFuel_eq] at this
  omega

theorem MultiHyp.overlay_WF {fs : Fs} {dest : RPath} {items : List CopySrc} {fuel : Nat}
    (H : MultiHyp fs dest items fuel) {e : CopySrc} (he : e ∈ items) (dst : Option Node)
    (hdst : ∀ x, dst = some x → x.WF) : (Node.overlay dst e.node).WF :=
  Xcp.overlay_WF 63 e.node (H.item he).2.2.2.2.1 dst hdst

theorem MultiHyp.targets {fs : Fs} {dest : RPath} {items : List CopySrc} {fuel : Nat}
    (H : MultiHyp fs dest items fuel) :
    (∀ T ∈ items.map (fun e => dest.names ++ [e.base]), ¬ T <+: dest.names) ∧
    ∀ e ∈ items, ∀ T ∈ items.map (fun e => dest.names ++ [e.base]), ¬ T <+: e.path.names ∧ ¬ e.path.names <+: T := by
  constructor
  · intro T hT
    obtain ⟨e, _, rfl⟩ := List.mem_map.1 hT
    exact child_not_prefix _ _
  · intro e he T hT
    obtain ⟨e', he', rfl⟩ := List.mem_map.1 hT
    exact ⟨(H.un e he e' he').2, (H.un e he e' he').1⟩

theorem MultiHyp.inReady {fs : Fs} {dest : RPath} {items : List CopySrc} {fuel : Nat}
    (H : MultiHyp fs dest items fuel) (c : Cfg) (texts : GiTexts) (hg : c.gitignore = false)
    (hnt : c.noTargetDir = false) {e : CopySrc} (he : e ∈ items) {g : Fs}
    (h : Ready fs (items.map fun e => dest.names ++ [e.base]) [dest.names ++ [e.base]] g) :
    (∃ es, g.root.getAt dest.names = some (.dir es)) ∧ g.root.getAt e.path.names = some e.node ∧
    g.root.getAt (dest.names ++ [e.base]) = fs.root.getAt (dest.names ++ [e.base]) ∧
    runSource c texts (plainPath dest.names) g e.path =
      execOps g c (walkEntry g c none e.path (plainPath (dest.names ++ [e.base])) walkFuel [] []) := by
  obtain ⟨es0, hes0⟩ := H.dd
  obtain ⟨es, hes⟩ := h.off.dir hes0 H.targets.1
  refine ⟨⟨es, hes⟩, (h.off.unrel _ (H.targets.2 e he)).trans (H.item he).2.2.1, h.rest _ List.mem_cons_self, ?_⟩
  exact runSource_eq (targetBase_dir g c hnt dest.names es e.path e.base (H.item he).2.1
    (by have := H.destLen; omega) hes) (parseIgnore_off g c texts e.path hg)

/-- each source of `runSources` is an exact overlay step: the walk in the state the earlier sources left gives the
operations of the source tree -/
theorem MultiHyp.exactStep {fs : Fs} {dest : RPath} {items : List CopySrc} {fuel : Nat}
    (H : MultiHyp fs dest items fuel) (c : Cfg) (texts : GiTexts) (hd : c.dereference = false)
    (hn : c.noClobber = false) (hg : c.gitignore = false) (hnt : c.noTargetDir = false) {e : CopySrc}
    (he : e ∈ items) :
    ExactStep id (fun g e => runSource c texts (plainPath dest.names) g e.path) fs dest.names
      (items.map fun e => dest.names ++ [e.base]) e := by
  intro g h hcomp
  obtain ⟨hpe, _, hsn, hnl, hcop, hl⟩ := H.item he
  obtain ⟨_, hsn', _, hrs⟩ := H.inReady c texts hg hnt he h
  obtain ⟨es0, hes0⟩ := H.dd
  have hshape := walk_root g c hd e.path.names (dest.names ++ [e.base]) (.inl hn) hcop hsn' hnl hl
  rw [← hpe, ← walkFuel_eq] at hshape
  show runSource c texts (plainPath dest.names) g e.path = _
  rw [hrs, hshape]
  exact exactStep_opsOf id c hes0 H.targets.1 e (.inl hn) (.self hsn) hcop (H.targets.2 e he) (List.mem_map_of_mem he) hl
    H.destLen g h
    hcomp

/-- Several sources into an existing directory.  Options: no dereference / gitignore / no-clobber /
no-target-directory.  `dest` is a plain path designating a directory; every source is a plain path with base name
`e.base` designating the tree `e.node`, which is copyable and less than `walkFuel` levels deep; the base names are
pairwise distinct; no source is inside (or above) any target `dest/b`; each target is compatible with its source
tree in the initial file system; paths are short enough for the resolution fuel.  Then the run over all sources
succeeds and the final tree is the initial one with each `dest/bi` overlaid with `ni`, in order — up to the order of
directory entries. -/
theorem multi_overlay (fs : Fs) (c : Cfg) (texts : GiTexts) (dest : RPath) (items : List CopySrc) (fuel : Nat)
    (H : MultiHyp fs dest items fuel)
    (hd : c.dereference = false) (hn : c.noClobber = false) (hg : c.gitignore = false)
    (hnt : c.noTargetDir = false) (hdest : PlainTarget fs dest)
    (hcomp : ∀ e ∈ items, Compatible (fs.root.getAt (dest.names ++ [e.base])) e.node) :
    ∃ fs', runSources fs c texts dest (items.map (·.path)) = ⟨.ok, fs'⟩ ∧
      FsEq fs' { fs with root := overlayAll fs.root dest.names items fs.root } := by
  obtain ⟨es0, hes0⟩ := H.dd
  have h := foldRun_overlay (cp := id) hes0 H.targets.1 items fs (by rw [List.map_id]; exact H.nd)
    (fun e he => List.mem_map_of_mem he)
    (fun e he => H.overlay_WF he _ (fun x hx => subtree_WF H.wf.2.1 hx))
    hcomp (fun e he => H.exactStep c texts hd hn hg hnt he) (Ready.init H.wf _ _)
  rw [List.map_id, ← foldRun_map, ← runSources_eq_foldRun, ← plainTarget_eq fs dest hdest] at h
  exact h

/-- Fresh targets: if no `dest/bi` exists, the result is the initial tree with each `ni` placed at `dest/bi` -/
theorem multi_fresh (fs : Fs) (c : Cfg) (texts : GiTexts) (dest : RPath) (items : List CopySrc) (fuel : Nat)
    (hd : c.dereference = false) (hn : c.noClobber = false) (hg : c.gitignore = false)
    (hnt : c.noTargetDir = false)
    (hwf : FsEq fs fs)
    (hdest : PlainTarget fs dest) (hdd : ∃ es, fs.root.getAt dest.names = some (.dir es))
    (hfuel : fuel < walkFuel)
    (hsrc : ∀ e ∈ items, PlainTarget fs e.path ∧ e.path.fileName = some e.base ∧
      fs.root.getAt e.path.names = some e.node ∧ e.node.Copyable fuel ∧ e.path.names.length + walkFuel < 256)
    (hnd : (items.map (·.base)).Nodup)
    (hun : ∀ e ∈ items, ∀ e' ∈ items,
      ¬ e.path.names <+: dest.names ++ [e'.base] ∧ ¬ dest.names ++ [e'.base] <+: e.path.names)
    (habs : ∀ e ∈ items, fs.root.getAt (dest.names ++ [e.base]) = none)
    (hlen : dest.names.length + 1 + walkFuel < 256) :
    ∃ fs', runSources fs c texts dest (items.map (·.path)) = ⟨.ok, fs'⟩ ∧
      FsEq fs' { fs with root := placeAll dest.names items fs.root } := by
  have h := multi_overlay fs c texts dest items fuel ⟨hwf, hdd, hfuel, hsrc, hnd, hun, hlen⟩ hd hn hg hnt hdest
    (fun e he => by rw [habs e he]; exact compatible_none _)
  rw [overlayAll_fresh fs.root dest.names items fs.root habs] at h
  exact h

end Xcp
