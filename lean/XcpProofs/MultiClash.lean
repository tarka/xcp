import XcpProofs.Clash
import XcpProofs.MultiSource
import XcpProofs.MultiConc
/-! # Several sources into one existing directory, one of whose targets clashes with its source

`multi_sequential` / `multi_overlay` (MultiConc, MultiSource; on every interleaving `multi_setup` with
`run_ok_and_refines`, RunInv) decide the runs all of whose targets `dest/bi` are `Compatible` with their source trees.
This file decides the rest, for targets that are plain where their sources map onto them (`Node.plainWhereMapped`): if
some target is not compatible with its source, the run does not end with exit status ok — for the sequential execution
of the concatenated operation lists and for every interleaving of the concurrent model (`multi_clash_fails`), and for
`runSources`, which re-evaluates each `target_base` against the file system left by the previous sources
(`MultiHyp.runSources_clash`).  Together with the compatible case, for targets made of directories and regular files
(`Node.plainTree`): exit status ok implies that every target is overlaid with its source tree, with no hypothesis about
compatibility (`multi_ok_implies_overlaid`; for `runSources`, C02's `several_sources_exit_zero_implies_overlaid`).

The concatenated list `allOps` is handled by `tree_clash` (ClashLemmas) for the tree of the clashing item: the operations
of the other items have their targets below other names of the destination directory, so none is at or above the
clashing place (`allOps_clash`).  `runSources` is the fold over the items (`foldRun_clash`, MultiSource): the items
before the first clashing one are exact overlay steps (`MultiHyp.exactStep`, MultiSource), and the first clashing item
fails (`single_clash`), which ends the run. -/
namespace Xcp

open L0

theorem plains_allOps {items : List CopySrc} {dn : List Name} (h : MSpec items dn) (g : Fs)
    (hdd : ∃ es, g.root.getAt dn = some (.dir es))
    (hS : ∀ e ∈ items, g.root.getAt e.path.names = some e.node)
    (hmp : ∀ e ∈ items, Node.mappedPlain (g.root.getAt (dn ++ [e.base])) e.node = true) :
    ∀ x ∈ allOps dn items, Plains g x := by
  intro x hx
  obtain ⟨e, he, hxe⟩ := mem_allOps.1 hx
  obtain ⟨es, hes⟩ := hdd
  exact plains_init g
    ((h.spec e he).treeChar g (fun rel m hg _ => by rw [Node.getAt_append, hS e he]; exact hg))
    (noLinkUpto_child e.base hes (hmp e he)) (mappedPlain_no_link (hmp e he)) x hxe

theorem allOps_clash {items : List CopySrc} {dn : List Name} (h : MSpec items dn)
    (hdl : dn.length + 1 + 63 < 256) (c : Cfg) (fs : Fs) (hwf : FsEq fs fs)
    (hdd : ∃ es, fs.root.getAt dn = some (.dir es))
    (hS : ∀ e ∈ items, fs.root.getAt e.path.names = some e.node)
    (hmp : ∀ e ∈ items, Node.mappedPlain (fs.root.getAt (dn ++ [e.base])) e.node = true)
    (hcl : ∃ e ∈ items, ¬ Compatible (fs.root.getAt (dn ++ [e.base])) e.node) :
    (execOps fs c (allOps dn items)).exit = .err ∧
    ∀ (ls : List Label) (s : St), run c (init fs (allOps dn items)) ls = some s → final s = true →
      s.failed = true := by
  obtain ⟨e0, he0, hne0⟩ := hcl
  have hmp0 := hmp e0 he0
  cases hx : fs.root.getAt (dn ++ [e0.base]) with
  | none => rw [hx] at hne0; exact absurd (compatible_none _) hne0
  | some x =>
    rw [hx] at hne0 hmp0
    refine tree_clash (.inl h.pairIndep) c (h.cop e0 he0)
      (by simp only [List.length_append, List.length_cons, List.length_nil]; omega) ?_
      (fun rel m hg => ⟨_, mem_allOps.2 ⟨e0, he0, headOp_mem_opsOf rel e0.node m e0.path.names (dn ++ [e0.base]) hg⟩⟩)
      fs hwf (plains_allOps h fs hdd hS hmp) hx hmp0 hne0
    intro op hop
    obtain ⟨e, he, rel, m, hg, _, ex⟩ := h.char hop
    refine ⟨_, m, _, ex, by simp, ?_⟩
    -- a target at or above a place below the clashing item's target belongs to that item
    intro r0 hp
    rw [List.append_assoc, List.append_assoc] at hp
    have hp' := (List.prefix_append_right_inj dn).1 hp
    simp only [List.cons_append, List.nil_append] at hp'
    have hee : e = e0 := nodup_map_inj (·.base) h.nd he he0 (List.cons_prefix_cons.1 hp').1
    subst hee
    exact ⟨rel, rfl, hg⟩

theorem single_clash (fs : Fs) (c : Cfg) (hd : c.dereference = false) (hn : c.noClobber = false)
    (sn tn : List Name) (n x : Node)
    (hwf : FsEq fs fs) (hsn : fs.root.getAt sn = some n) (hnl : n.isLink = false) (hcop : n.Copyable 63)
    (ht : fs.root.getAt tn = some x) (hmp : Node.mappedPlain (some x) n = true)
    (hclash : ¬ Compatible (some x) n)
    (hun1 : ¬ sn <+: tn) (hun2 : ¬ tn <+: sn)
    (hl1 : sn.length + 63 < 256) (hl2 : tn.length + 63 < 256) :
    (execOps fs c (walkEntry fs c none (plainPath sn) (plainPath tn) walkFuel [] [])).exit = .err := by
  have hspec : OpsSpec n sn tn 63 (opsOf n sn tn) :=
    ⟨mem_opsOf 63 n hcop _ _, hun1, hun2, fun h0 => hun2 (h0 ▸ List.nil_prefix), hl1, hl2⟩
  rw [walkFuel_eq, walk_root fs c hd sn tn (.inl hn) hcop hsn hnl hl1]
  exact (opsOf_clash c hcop hspec fs hwf (fun rel m hg _ => by rw [Node.getAt_append, hsn]; exact hg)
    ht hmp hclash).1

theorem MultiHyp.clashStep {fs : Fs} {dest : RPath} {items : List CopySrc} {fuel : Nat}
    (H : MultiHyp fs dest items fuel) (c : Cfg) (texts : GiTexts) (hd : c.dereference = false)
    (hn : c.noClobber = false) (hg : c.gitignore = false) (hnt : c.noTargetDir = false) {e : CopySrc}
    (he : e ∈ items) (hmp : Node.mappedPlain (fs.root.getAt (dest.names ++ [e.base])) e.node = true) (g : Fs)
    (h : Ready fs (items.map fun e => dest.names ++ [e.base]) [dest.names ++ [e.base]] g)
    (hce : ¬ Compatible (fs.root.getAt (dest.names ++ [e.base])) e.node) :
    (runSource c texts (plainPath dest.names) g e.path).exit = .err := by
  obtain ⟨hpe, _, _, hnl, hcop, hl⟩ := H.item he
  obtain ⟨⟨es, hes⟩, hsn', hage, hrs⟩ := H.inReady c texts hg hnt he h
  cases hx : fs.root.getAt (dest.names ++ [e.base]) with
  | none => rw [hx] at hce; exact absurd (compatible_none _) hce
  | some x =>
    rw [hx] at hce hmp hage
    have hfail := single_clash g c hd hn e.path.names (dest.names ++ [e.base]) e.node x h.wf hsn' hnl hcop hage hmp
      hce (H.un e he e he).1 (H.un e he e he).2 hl
      (by rw [List.length_append]; exact H.destLen)
    rw [← hpe] at hfail
    rw [hrs]
    exact hfail

theorem MultiHyp.runSources_clash {fs : Fs} {dest : RPath} {items : List CopySrc} {fuel : Nat}
    (H : MultiHyp fs dest items fuel) (c : Cfg) (texts : GiTexts) (hd : c.dereference = false)
    (hn : c.noClobber = false) (hg : c.gitignore = false) (hnt : c.noTargetDir = false)
    (hmp : ∀ e ∈ items, Node.mappedPlain (fs.root.getAt (dest.names ++ [e.base])) e.node = true)
    (hcl : ∃ e ∈ items, ¬ Compatible (fs.root.getAt (dest.names ++ [e.base])) e.node) :
    (runSources fs c texts (plainPath dest.names) (items.map (·.path))).exit = .err := by
  rw [runSources_eq_foldRun, foldRun_map]
  exact foldRun_clash (cp := id) (dn := dest.names) (Ts := items.map fun e => dest.names ++ [e.base]) items fs
    (by rw [List.map_id]; exact H.nd) (fun e he => List.mem_map_of_mem he)
    (fun e he => H.overlay_WF he _ (fun x hx => subtree_WF H.wf.2.1 hx))
    (fun e he => H.exactStep c texts hd hn hg hnt he)
    (fun e he => H.clashStep c texts hd hn hg hnt he (hmp e he)) (Ready.init H.wf _ _) hcl

theorem multi_clash_fails {fs : Fs} {dest : RPath} {items : List CopySrc} {fuel : Nat}
    (H : MultiHyp fs dest items fuel) (c : Cfg) (hd : c.dereference = false) (hn : c.noClobber = false)
    (hplain : ∀ e ∈ items, ∀ d, fs.root.getAt (dest.names ++ [e.base]) = some d → d.plainWhereMapped e.node = true)
    (hclash : ∃ e ∈ items, ¬ Compatible (fs.root.getAt (dest.names ++ [e.base])) e.node) :
    (execOps fs c (multiOps fs c dest items)).exit = .err ∧
    ∀ (ls : List Label) (s : St), run c (init fs (multiOps fs c dest items)) ls = some s → final s = true →
      s.failed = true := by
  have hops := multiOps_shape H c hd (fun _ _ => .inl hn)
  have hspec := multi_mspec H
  rw [hops]
  exact allOps_clash hspec (Nat.lt_of_succ_lt H.len) c fs H.wf H.dd (fun e he => (H.src e he).2.2.1)
    (fun e he => mappedPlain_of_forall (hplain e he)) hclash

/-- the concatenated lists run in order, no compatibility assumed: exit status ok implies that the final file system is
the initial one with every target overlaid with its source tree -/
theorem multi_ok_implies_overlaid (fs : Fs) (c : Cfg) (dest : RPath) (items : List CopySrc) (fuel : Nat)
    (hd : c.dereference = false) (hn : c.noClobber = false)
    (hwf : FsEq fs fs)
    (hdd : ∃ es, fs.root.getAt dest.names = some (.dir es))
    (hfuel : fuel < walkFuel)
    (hsrc : ∀ e ∈ items, PlainTarget fs e.path ∧ e.path.fileName = some e.base ∧
      fs.root.getAt e.path.names = some e.node ∧ e.node.Copyable fuel ∧ e.path.names.length + walkFuel < 256)
    (hnd : (items.map (·.base)).Nodup)
    (hun : ∀ e ∈ items, ∀ e' ∈ items,
      ¬ e.path.names <+: dest.names ++ [e'.base] ∧ ¬ dest.names ++ [e'.base] <+: e.path.names)
    (hplain : ∀ e ∈ items, ∀ d, fs.root.getAt (dest.names ++ [e.base]) = some d → d.plainTree = true)
    (hlen : dest.names.length + 1 + walkFuel < 256)
    (fs' : Fs) (hok : execOps fs c (multiOps fs c dest items) = ⟨.ok, fs'⟩) :
    FsEq fs' { fs with root := overlayAll fs.root dest.names items fs.root } := by
  exact ok_implies_of_cases (C := ∀ e ∈ items, Compatible (fs.root.getAt (dest.names ++ [e.base])) e.node)
    (fun hcomp => multi_sequential fs c dest items fuel ⟨hwf, hdd, hfuel, hsrc, hnd, hun, hlen⟩ hd hn hcomp)
    (fun hno => (multi_clash_fails ⟨hwf, hdd, hfuel, hsrc, hnd, hun, hlen⟩ c hd hn
      (fun e he d hd => plainWhereMapped_of_plainTree _ _ (hplain e he d hd))
      (exists_mem_not_of_not_forall hno)).1) hok

end Xcp
