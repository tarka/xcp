import XcpProofs.FsFrame
/-! # `validate` and the walk in stages (C02, C13, C16)

The rejections of `validate`, one lemma per reason; `walkEntry` as a sequence of checks followed by the operations of
an entry that passed them (`walkEntry_succ`), from which the statements about single entries follow. -/

namespace Xcp

theorem expandSources_noglob (fs : Fs) (o : Opts) (pats : List RPath) (hg : o.glob = false) :
    expandSources fs o pats = .ok pats := by
  simp [expandSources, hg]

theorem expandSources_nil (fs : Fs) (o : Opts) : expandSources fs o [] = .ok [] := by
  unfold expandSources
  cases o.glob <;> simp

/-- a malformed pattern or one that matches nothing makes the expansion fail -/
theorem expandSources_error_of_mem (fs : Fs) (o : Opts) (hg : o.glob = true) (pats : List RPath) (p : RPath)
    (hm : p ∈ pats) (hb : globOne fs p = none ∨ globOne fs p = some []) :
    ∃ r, expandSources fs o pats = .error r := by
  unfold expandSources
  simp only [hg, if_true]
  cases hmm : pats.mapM (globOne fs) with
  | none => exact ⟨_, rfl⟩
  | some ls =>
    obtain ⟨x, hx, hxl⟩ := mapM_option_some_mem _ _ _ hmm p hm
    cases hb with
    | inl hb => rw [hb] at hx; cases hx
    | inr hb =>
      rw [hb] at hx
      cases hx
      have : ls.any List.isEmpty = true := List.any_eq_true.mpr ⟨[], hxl, rfl⟩
      simp [this]

theorem checkSources_ok_iff (fs : Fs) (o : Opts) (dest : RPath) (l : List RPath) :
    checkSources fs o dest l = .ok () ↔ ∀ s ∈ l, checkSource fs o dest s = .ok () := by
  induction l with
  | nil => exact ⟨fun _ _ h => (by cases h), fun _ => rfl⟩
  | cons s r ih =>
    rw [checkSources, List.forall_mem_cons]
    cases checkSource fs o dest s with
    | error e => exact ⟨fun h => (by cases h), fun h => (by cases h.1)⟩
    | ok u => exact ⟨fun h => ⟨rfl, ih.1 h⟩, fun h => ih.2 h.2⟩

theorem checkSources_error_of_mem (fs : Fs) (o : Opts) (dest : RPath) (s : RPath) (srcs : List RPath)
    (hm : s ∈ srcs) (he : ∃ r, checkSource fs o dest s = .error r) :
    ∃ r, checkSources fs o dest srcs = .error r := by
  cases h : checkSources fs o dest srcs with
  | error r => exact ⟨r, rfl⟩
  | ok u =>
    obtain ⟨r, hr⟩ := he
    rw [(checkSources_ok_iff fs o dest srcs).1 h s hm] at hr
    cases hr

/-- the split of the arguments into destination and sources, as inside `validate` -/
def argSplit (o : Opts) : Option (RPath × List RPath) :=
  match o.targetDir with
  | some d => some (d, o.paths)
  | none => splitLastPath o.paths

theorem ite_error {ε α} {c : Prop} [Decidable c] {e : ε} {x : Except ε α} (hx : ∃ r, x = .error r) :
    ∃ r, (if c then .error e else x) = .error r := by
  split
  · exact ⟨_, rfl⟩
  · exact hx

/-- `validate` after the option check and the split of the arguments -/
def validateRest (fs : Fs) (o : Opts) (dest : RPath) (pats : List RPath) : Except Reject (List RPath × RPath) :=
  match expandSources fs o pats with
  | .error e => .error e
  | .ok sources =>
    if sources.isEmpty then .error .noSources
    else if !fs.isDir dest && (sources.length = 1 && (match sources with | [s] => fs.isDir s | _ => false) && fs.exists dest) then .error .dirOntoFile
    else if !fs.isDir dest && sources.length > 1 then .error .multiToNonDir
    else match checkSources fs o dest sources with
      | .error e => .error e
      | .ok () => .ok (sources, dest)

theorem validate_eq (fs : Fs) (o : Opts) :
    validate fs o =
      if o.cfg.noClobber && o.force then .error .forceAndNoClobber else
      match argSplit o with
      | none => .error .insufficient
      | some (dest, pats) => validateRest fs o dest pats := rfl

theorem validate_error_of_rest (fs : Fs) (o : Opts) (dest : RPath) (pats : List RPath)
    (hs : argSplit o = some (dest, pats)) (h : ∃ r, validateRest fs o dest pats = .error r) :
    ∃ r, validate fs o = .error r := by
  obtain ⟨e, h⟩ := h
  rw [validate_eq, hs]
  split
  · exact ⟨_, rfl⟩
  · exact ⟨e, h⟩

theorem validate_error_of_expand (fs : Fs) (o : Opts) (dest : RPath) (pats : List RPath)
    (hs : argSplit o = some (dest, pats)) (h : ∃ r, expandSources fs o pats = .error r) :
    ∃ r, validate fs o = .error r := by
  obtain ⟨e, h⟩ := h
  refine validate_error_of_rest fs o dest pats hs ⟨e, ?_⟩
  unfold validateRest
  rw [h]

theorem validate_error_of_check (fs : Fs) (o : Opts) (dest : RPath) (pats sources : List RPath)
    (hs : argSplit o = some (dest, pats)) (hx : expandSources fs o pats = .ok sources)
    (h : ∃ r, checkSources fs o dest sources = .error r) :
    ∃ r, validate fs o = .error r := by
  obtain ⟨e, h⟩ := h
  apply validate_error_of_rest fs o dest pats hs
  unfold validateRest
  rw [hx]
  simp only [h]
  exact ite_error (ite_error (ite_error ⟨_, rfl⟩))

/-- one refused source, wherever it stands among the literal sources, makes the invocation refused -/
theorem validate_error_of_bad_source (fs : Fs) (o : Opts) (hg : o.glob = false) (dest : RPath) (srcs : List RPath)
    (hs : argSplit o = some (dest, srcs)) (s : RPath) (hm : s ∈ srcs)
    (h : ∃ r, checkSource fs o dest s = .error r) : ∃ r, validate fs o = .error r :=
  validate_error_of_check fs o dest srcs srcs hs (expandSources_noglob fs o srcs hg)
    (checkSources_error_of_mem fs o dest s srcs hm h)

theorem validate_error_of_multi (fs : Fs) (o : Opts) (dest : RPath) (pats sources : List RPath)
    (hs : argSplit o = some (dest, pats)) (hx : expandSources fs o pats = .ok sources)
    (hn : 1 < sources.length) (hd : fs.isDir dest = false) :
    ∃ r, validate fs o = .error r := by
  apply validate_error_of_rest fs o dest pats hs
  unfold validateRest
  rw [hx]
  simp only []
  refine ite_error (ite_error ?_)
  rw [if_pos (by simp [hd, hn])]
  exact ⟨_, rfl⟩

theorem validate_error_of_nosource (fs : Fs) (o : Opts) (dest : RPath)
    (hs : argSplit o = some (dest, [])) : ∃ r, validate fs o = .error r := by
  apply validate_error_of_rest fs o dest [] hs
  unfold validateRest
  rw [expandSources_nil]
  exact ⟨_, rfl⟩

theorem validate_error_of_nosplit (fs : Fs) (o : Opts)
    (hs : argSplit o = none) : ∃ r, validate fs o = .error r := by
  rw [validate_eq, hs]
  split <;> exact ⟨_, rfl⟩

theorem checkSource_error_missing (fs : Fs) (o : Opts) (dest s : RPath) (hx : fs.exists s = false) :
    ∃ r, checkSource fs o dest s = .error r := by
  unfold checkSource
  rw [if_pos (by simp [hx])]
  exact ⟨_, rfl⟩

theorem checkSource_error_dir (fs : Fs) (o : Opts) (dest s : RPath) (hd : fs.isDir s = true)
    (hr : o.cfg.recursive = false) : ∃ r, checkSource fs o dest s = .error r := by
  unfold checkSource
  refine ite_error ?_
  rw [if_pos (by simp [hd, hr])]
  exact ⟨_, rfl⟩

theorem checkSource_error_dirOnto (fs : Fs) (o : Opts) (dest s tb : RPath) (hd : fs.isDir s = true)
    (ht : targetBase fs o.cfg dest s = some tb) (he : fs.exists tb = true) (hnd : fs.isDir tb = false) :
    ∃ r, checkSource fs o dest s = .error r := by
  unfold checkSource
  refine ite_error (ite_error (ite_error ?_))
  simp only [ht]
  refine ite_error ?_
  rw [if_pos he]
  refine ite_error ?_
  rw [if_pos (by simp [hd, hnd])]
  exact ⟨_, rfl⟩

theorem checkSource_error_same (fs : Fs) (o : Opts) (dest s tb : RPath)
    (ht : targetBase fs o.cfg dest s = some tb)
    (hsame : s.same dest = true ∨ s.same tb = true ∨ (fs.exists tb = true ∧ fs.sameFile s tb = true)) :
    ∃ r, checkSource fs o dest s = .error r := by
  unfold checkSource
  refine ite_error (ite_error ?_)
  rcases hsame with h | h | ⟨h1, h2⟩
  · rw [if_pos h]; exact ⟨_, rfl⟩
  · refine ite_error ?_
    simp only [ht]
    rw [if_pos h]; exact ⟨_, rfl⟩
  · refine ite_error ?_
    simp only [ht]
    refine ite_error ?_
    rw [if_pos h1, if_pos h2]; exact ⟨_, rfl⟩

/-- the operation `walkEntry` emits for the entry itself -/
def hereOps (node : Node) (fromP target : RPath) : List Op :=
  match classifyKind node.kind with
  | .copy => [.copy fromP target]
  | .link => (match node with | .link t => [.link t target] | _ => [.fail])
  | .mkdir => [.mkdir target]
  | .special => [.special fromP target]
  | .unsupported => [.fail]

/-- what `walkdir` sees through the entry when it is a link it follows -/
def followedOf (fs : Fs) (c : Cfg) (epath : RPath) (depth : Nat) (lnode : Node) : Option (List Name × Node) :=
  if lnode.isLink && (c.dereference || depth = 0) then fs.stat epath else none

/-- the gitignore filter: never on the root -/
def giDrops (fs : Fs) (c : Cfg) (gi : Ignore) (epath : RPath) (rel : List Name) : Bool :=
  rel.length > 0 && (match gi with | some ps => !Gi.keeps ps rel (giIsDir fs c epath) | none => false)

/-- the directory `walkdir` descends into, by its canonical path -/
def descendOf (lnode : Node) (canon : List Name) (followed : Option (List Name × Node)) : Option (List Name) :=
  match lnode with
  | .dir _ => some canon
  | .link _ => (match followed with
      | some (cp, .dir _) => some cp
      | _ => none)
  | _ => none

/-- the operations for an entry that passed every check: `here` for the entry itself, then its children -/
def walkBelow (fs : Fs) (c : Cfg) (gi : Ignore) (src tb : RPath) (f : Nat) (rel : List Name)
    (anc : List (List Name)) (lnode : Node) (here : List Op) : Option (List Name) → List Op
  | none => here
  | some dcanon =>
    if lnode.isLink && c.dereference && anc.contains dcanon then [.fail] else
    match fs.root.getAt dcanon with
    | some (.dir es) =>
      here ++ (es.map (·.1)).flatMap fun n => walkEntry fs c gi src tb f (rel ++ [n]) (dcanon :: anc)
    | _ => here

/-- `walkEntry` in stages: the entry itself (`lstat`, a dangling link under `-L`), the filter, the place it is
read from (`canonicalize`, `lstat`), no-clobber, and the operations -/
theorem walkEntry_succ (fs : Fs) (c : Cfg) (gi : Ignore) (src tb : RPath) (f : Nat) (rel : List Name)
    (anc : List (List Name)) :
    walkEntry fs c gi src tb (f + 1) rel anc =
      match fs.lstat (relJoin src rel) with
      | none => [.fail]
      | some (_, lnode) =>
        if lnode.isLink && c.dereference && (followedOf fs c (relJoin src rel) rel.length lnode).isNone then [.fail] else
        if giDrops fs c gi (relJoin src rel) rel then [] else
        match (if c.dereference then fs.canonicalize (relJoin src rel) else .ok (relJoin src rel)) with
        | .error _ => [.fail]
        | .ok fromP =>
          match fs.lstat fromP with
          | none => [.fail]
          | some (canon, node) =>
            if c.noClobber && fs.lexists (relJoin tb rel) then [.fail] else
            walkBelow fs c gi src tb f rel anc lnode (hereOps node fromP (relJoin tb rel))
              (descendOf lnode canon (followedOf fs c (relJoin src rel) rel.length lnode)) := by
  rw [walkEntry]
  rfl

theorem hereOps_singleton (node : Node) (fromP target : RPath) : ∃ h, hereOps node fromP target = [h] := by
  unfold hereOps
  cases classifyKind node.kind with
  | link => cases node <;> exact ⟨_, rfl⟩
  | _ => exact ⟨_, rfl⟩

theorem walkBelow_cons (fs : Fs) (c : Cfg) (src tb : RPath) (f : Nat) (rel : List Name) (anc : List (List Name))
    (lnode : Node) (h : Op) (d : Option (List Name)) :
    ∃ h', ∀ gi, ∃ t, walkBelow fs c gi src tb f rel anc lnode [h] d = h' :: t := by
  cases d with
  | none => exact ⟨h, fun _ => ⟨[], rfl⟩⟩
  | some dc =>
    dsimp only [walkBelow]
    cases (lnode.isLink && c.dereference && anc.contains dc) with
    | true => exact ⟨.fail, fun _ => ⟨[], rfl⟩⟩
    | false =>
      cases fs.root.getAt dc with
      | none => exact ⟨h, fun _ => ⟨[], rfl⟩⟩
      | some n => cases n <;> exact ⟨h, fun _ => ⟨_, rfl⟩⟩

theorem mem_walkBelow {fs : Fs} {c : Cfg} {gi : Ignore} {src tb : RPath} {f : Nat} {rel : List Name}
    {anc : List (List Name)} {lnode : Node} {here : List Op} {d : Option (List Name)} {op : Op}
    (h : op ∈ walkBelow fs c gi src tb f rel anc lnode here d) :
    op = .fail ∨ op ∈ here ∨ ∃ n dc, op ∈ walkEntry fs c gi src tb f (rel ++ [n]) (dc :: anc) := by
  cases d with
  | none => exact .inr (.inl h)
  | some dc =>
    dsimp only [walkBelow] at h
    split at h
    · exact .inl (List.mem_singleton.1 h)
    · split at h
      · rcases List.mem_append.1 h with h | h
        · exact .inr (.inl h)
        · obtain ⟨n, _, hn⟩ := List.mem_flatMap.1 h
          exact .inr (.inr ⟨n, dc, hn⟩)
      · exact .inr (.inl h)

/-- to show something of the operations of an entry, show it of a failure, of nothing, and of the operations of an
entry that passed every check -/
theorem walkEntry_succ_cases {fs : Fs} {c : Cfg} {gi : Ignore} {src tb : RPath} {f : Nat} {rel : List Name}
    {anc : List (List Name)} {P : List Op → Prop} (hfail : P [.fail]) (hnil : P [])
    (hops : ∀ cp lnode fromP canon node, fs.lstat (relJoin src rel) = some (cp, lnode) →
      (if c.dereference then fs.canonicalize (relJoin src rel) else .ok (relJoin src rel)) = .ok fromP →
      fs.lstat fromP = some (canon, node) → giDrops fs c gi (relJoin src rel) rel = false →
      (c.noClobber && fs.lexists (relJoin tb rel)) = false →
      P (walkBelow fs c gi src tb f rel anc lnode (hereOps node fromP (relJoin tb rel))
        (descendOf lnode canon (followedOf fs c (relJoin src rel) rel.length lnode)))) :
    P (walkEntry fs c gi src tb (f + 1) rel anc) := by
  rw [walkEntry_succ]
  cases hl : fs.lstat (relJoin src rel) with
  | none => exact hfail
  | some pr =>
    obtain ⟨cp, lnode⟩ := pr
    dsimp only
    cases (lnode.isLink && c.dereference && (followedOf fs c (relJoin src rel) rel.length lnode).isNone) with
    | true => exact hfail
    | false =>
      rw [if_neg Bool.false_ne_true]
      cases hgd : giDrops fs c gi (relJoin src rel) rel with
      | true => exact hnil
      | false =>
        rw [if_neg Bool.false_ne_true]
        cases hc : (if c.dereference then fs.canonicalize (relJoin src rel) else .ok (relJoin src rel)) with
        | error e => exact hfail
        | ok fromP =>
          dsimp only
          cases hl2 : fs.lstat fromP with
          | none => exact hfail
          | some pr2 =>
            obtain ⟨canon, node⟩ := pr2
            dsimp only
            cases hnc : (c.noClobber && fs.lexists (relJoin tb rel)) with
            | true => exact hfail
            | false =>
              rw [if_neg Bool.false_ne_true]
              exact hops cp lnode fromP canon node hl hc hl2 hgd hnc

/-- the first operation of the walk's root entry does not depend on the filter -/
theorem walkEntry_root_cons (fs : Fs) (c : Cfg) (src tb : RPath) (f : Nat) (anc : List (List Name)) :
    ∃ h, ∀ gi : Ignore, ∃ t, walkEntry fs c gi src tb (f + 1) [] anc = h :: t := by
  have hf : ∃ h, ∀ gi : Ignore, ∃ t, ([.fail] : List Op) = h :: t := ⟨.fail, fun _ => ⟨[], rfl⟩⟩
  simp only [walkEntry_succ, giDrops, List.length_nil, Nat.lt_irrefl, decide_false, Bool.false_and,
    Bool.false_eq_true, if_false]
  cases fs.lstat (relJoin src []) with
  | none => exact hf
  | some pr =>
    obtain ⟨cp, lnode⟩ := pr
    dsimp only
    split
    · exact hf
    · cases (if c.dereference then fs.canonicalize (relJoin src []) else .ok (relJoin src [])) with
      | error e => exact hf
      | ok fromP =>
        dsimp only
        cases fs.lstat fromP with
        | none => exact hf
        | some pr2 =>
          obtain ⟨canon, node⟩ := pr2
          dsimp only
          split
          · exact hf
          · obtain ⟨h, hh⟩ := hereOps_singleton node fromP (relJoin tb [])
            rw [hh]
            exact walkBelow_cons fs c src tb f [] anc lnode h _

theorem walkBelow_head? (fs : Fs) (c : Cfg) (gi : Ignore) (src tb : RPath) (f : Nat)
    (rel : List Name) (anc : List (List Name)) (lnode : Node) (hd : (lnode.isLink && c.dereference) = false)
    (h : Op) (d : Option (List Name)) :
    (walkBelow fs c gi src tb f rel anc lnode [h] d).head? = some h := by
  cases d with
  | none => rfl
  | some dc =>
    simp only [walkBelow, hd, Bool.false_and, Bool.false_eq_true, if_false]
    cases fs.root.getAt dc with
    | none => rfl
    | some n => cases n <;> rfl

theorem giDrops_none (fs : Fs) (c : Cfg) (p : RPath) (rel : List Name) : giDrops fs c none p rel = false :=
  Bool.and_false _

theorem giDrops_root (fs : Fs) (c : Cfg) (gi : Ignore) (p : RPath) : giDrops fs c gi p [] = false :=
  Bool.false_and _

/-- without dereference, the first thing `walkEntry` emits for an entry that `lstat` finds, the filter keeps and
no-clobber lets pass is the operation for the entry itself -/
theorem walkEntry_head (fs : Fs) (c : Cfg) (hd : c.dereference = false) (gi : Ignore)
    (src tb : RPath) (fuel : Nat) (rel : List Name) (anc : List (List Name)) (cp : List Name) (n : Node)
    (hl : fs.lstat (relJoin src rel) = some (cp, n))
    (hg : giDrops fs c gi (relJoin src rel) rel = false)
    (hn : (c.noClobber && fs.lexists (relJoin tb rel)) = false) :
    (walkEntry fs c gi src tb (fuel + 1) rel anc).head? =
      (hereOps n (relJoin src rel) (relJoin tb rel)).head? := by
  obtain ⟨h, hh⟩ := hereOps_singleton n (relJoin src rel) (relJoin tb rel)
  simp only [walkEntry_succ, hl, hd, hn, hg, hh, Bool.and_false, Bool.false_and, Bool.false_eq_true, if_false]
  exact walkBelow_head? fs c gi src tb fuel rel anc n (by rw [hd]; exact Bool.and_false _) h _

theorem hereOps_no_link (node : Node) (fromP target : RPath) (hnl : node.isLink = false) :
    ∀ op ∈ hereOps node fromP target, ∀ text t, op ≠ .link text t := by
  intro op h text t
  unfold hereOps at h
  cases node with
  | link _ => cases hnl
  | file _ => simp [Node.kind, classifyKind] at h; subst h; exact Op.noConfusion
  | dir _ => simp [Node.kind, classifyKind] at h; subst h; exact Op.noConfusion
  | special k _ =>
    cases k <;> simp [Node.kind, classifyKind] at h <;> subst h <;> exact Op.noConfusion

/-- with `--dereference` no operation of the walk creates a symbolic link -/
theorem walkEntry_deref_no_link (fs : Fs) (hroot : fs.root.isLink = false)
    (hcwd : GoodCur fs.root fs.cwd)
    (c : Cfg) (hd : c.dereference = true) (gi : Ignore) (src tb : RPath) :
    ∀ (fuel : Nat) (rel : List Name) (anc : List (List Name)),
      ∀ op ∈ walkEntry fs c gi src tb fuel rel anc, ∀ text t, op ≠ .link text t := by
  intro fuel
  induction fuel with
  | zero => intro rel anc op h text t; cases List.mem_singleton.1 h; exact Op.noConfusion
  | succ f ih =>
    intro rel anc
    apply walkEntry_succ_cases (P := fun l => ∀ op ∈ l, ∀ text t, op ≠ .link text t)
    · intro op h text t; cases List.mem_singleton.1 h; exact Op.noConfusion
    · intro op h; cases h
    · intro cp lnode fromP canon node _ hc hl2 _ _ op h text t
      rw [if_pos hd] at hc
      -- what is read from a canonical path is not a link
      have hnl := lstat_canonical_nonlink fs hroot hcwd _ _ hc canon node hl2
      rcases mem_walkBelow h with rfl | h | ⟨n, dc, h⟩
      · exact Op.noConfusion
      · exact hereOps_no_link node fromP _ hnl op h text t
      · exact ih _ _ op h text t

end Xcp
