import XcpProofs.MultiSource
/-! # Several sources with `--gitignore`: each source is filtered by the `.gitignore` at its own root

`xcp -r --gitignore s1 … sn DEST/` with `DEST` an existing directory.  `runSources` evaluates `parseIgnore` for every
source in the state left by the previous sources; each item `e` carries the pattern list `e.ps` in force for it:
`parseIgnore fs c texts e.path = some e.ps` in the initial file system.  Under the hypotheses of `multi_overlay`, with
every target compatible with the pruned tree of its source, the run succeeds and the result is the initial tree with
each `DEST/bi` overlaid with `Node.prune psi [] ni`, in order.

One hypothesis is added with respect to `multi_overlay` (`GiHyp.gl`): the `.gitignore` of a source is not a symbolic
link.
Without it the statement is false: let `s2/.gitignore` be a link to `DEST/b1/f`, a file that the copy of `s1` rewrites;
then the pattern list in force for `s2` when the walker reaches it is not the one computed in the initial state.  With
it, the previous sources — which write below their own targets only, unrelated to every source path (`GiHyp.un`) —
cannot
change what `s/.gitignore` resolves to (`parseIgnore_agree`). -/
namespace Xcp

/-- the name `.gitignore` -/
def giName : Name := [46, 103, 105, 116, 105, 103, 110, 111, 114, 101]

/-- one source with the pattern list in force for it -/
structure GiSrc where
  path : RPath
  base : Name
  node : Node
  ps : List Gi.Pattern

/-- what the source contributes to the destination: its tree minus what its patterns exclude -/
def GiSrc.pruned (e : GiSrc) : CopySrc := ⟨e.path, e.base, Node.prune e.ps [] e.node⟩

theorem map_pruned_base (items : List GiSrc) : (items.map GiSrc.pruned).map (·.base) = items.map (·.base) := by
  simp [List.map_map, Function.comp_def, GiSrc.pruned]

theorem push_plainPath (ns : List Name) (b : Name) : (plainPath ns).push b = plainPath (ns ++ [b]) := by
  simp [RPath.push, plainPath]

theorem parseIgnore_agree {fs0 g : Fs} {Ts : List (List Name)} (h : AgreeOff fs0 g Ts) (c : Cfg) (texts : GiTexts)
    (sn : List Name) (x : Node) (hx : fs0.root.getAt sn = some x) (hxl : x.isLink = false)
    (hgl : ∀ tg, fs0.root.getAt (sn ++ [giName]) ≠ some (.link tg))
    (hun : ∀ T ∈ Ts, ¬ T <+: sn ∧ ¬ sn <+: T) :
    parseIgnore g c texts (plainPath sn) = parseIgnore fs0 c texts (plainPath sn) := by
  have hnot : ∀ T ∈ Ts, ¬ T <+: sn ++ [giName] := by
    intro T hT hp
    rcases List.prefix_concat_iff.1 hp with e | hp'
    · exact (hun T hT).2 (e ▸ List.prefix_append _ _)
    · exact (hun T hT).1 hp'
  have hag : AgreeUpto fs0.root g.root (sn ++ [giName]) :=
    fun p hp => obs_of_dirOrSame (h.above p (fun T hT hTp => hnot T hT (hTp.trans hp)))
  have hl : NoLinkUpto fs0.root (sn ++ [giName]) := by
    intro p hp tg hgl'
    rcases List.prefix_concat_iff.1 hp with e | hp'
    · rw [e] at hgl'; exact hgl tg hgl'
    · exact noLinkUpto_of_getAt hx hxl p hp' tg hgl'
  have hc := contentOf_congr (ostat_local fs0 g (sn ++ [giName]) hag hl)
  unfold parseIgnore
  rw [push_plainPath]
  show (if c.gitignore = true then _ else _) = (if c.gitignore = true then _ else _)
  rw [show (46 : UInt8) :: [103, 105, 116, 105, 103, 110, 111, 114, 101] = giName from rfl, hc]

/-- each source of `runSources` with its own pattern list is an exact overlay step with its pruned tree: the pattern
list and the walk in the state the earlier sources left are those of the initial state -/
theorem exactStep_runSourceGi (c : Cfg) (texts : GiTexts) (hd : c.dereference = false) (hn : c.noClobber = false)
    (hnt : c.noTargetDir = false) {fs0 : Fs} {dn : List Name} {Ts : List (List Name)} {es0 : Entries}
    (hdd : fs0.root.getAt dn = some (.dir es0)) (hTs : ∀ T ∈ Ts, ¬ T <+: dn) (e : GiSrc)
    (hpe : e.path = plainPath e.path.names) (hfn : e.path.fileName = some e.base)
    (hsn : fs0.root.getAt e.path.names = some e.node) (hnl : e.node.isLink = false) (hcop : e.node.Copyable 63)
    (hps : parseIgnore fs0 c texts e.path = some e.ps)
    (hgl : ∀ tg, fs0.root.getAt (e.path.names ++ [giName]) ≠ some (.link tg))
    (hun : ∀ T ∈ Ts, ¬ T <+: e.path.names ∧ ¬ e.path.names <+: T) (hT : dn ++ [e.base] ∈ Ts)
    (hl : e.path.names.length + 63 < 256) (hdl : dn.length + 1 + 63 < 256) :
    ExactStep GiSrc.pruned (fun g e => runSource c texts (plainPath dn) g e.path) fs0 dn Ts e := by
  intro g h hcomp
  obtain ⟨es, hes⟩ := h.off.dir hdd hTs
  have hsn' : g.root.getAt e.path.names = some e.node := by rw [h.off.unrel _ hun]; exact hsn
  have hps' : parseIgnore g c texts e.path = some e.ps := by
    rw [hpe, parseIgnore_agree h.off c texts e.path.names e.node hsn hnl hgl hun, ← hpe]
    exact hps
  have hshape := walk_shape_gi g c e.ps hd e.path.names (dn ++ [e.base]) (.inl hn) 63 e.node hcop [] []
    (by rw [List.append_nil]; exact hsn') (fun hlk => by rw [hnl] at hlk; cases hlk)
    (by rw [List.length_nil]; omega) (.inl rfl)
  rw [← hpe, List.append_nil, List.append_nil, ← walkFuel_eq] at hshape
  show runSource c texts (plainPath dn) g e.path = _
  rw [runSource_eq (targetBase_dir g c hnt dn es e.path e.base hfn (by omega) hes) hps', hshape]
  exact exactStep_opsOf GiSrc.pruned c hdd hTs e (.inl hn) (.prune e.ps hsn (copyable_WF _ _ hcop))
    (copyable_prune e.ps 63 e.node hcop []) hun hT
    hl hdl g h hcomp

/-- the standing hypotheses of `MultiHyp` for sources with patterns, and for each source: `e.ps` is the pattern list in
force for it in the initial state, and its `.gitignore` is not a symbolic link -/
structure GiHyp (fs : Fs) (c : Cfg) (texts : GiTexts) (dest : RPath) (items : List GiSrc) (fuel : Nat) : Prop where
  wf : FsEq fs fs
  dd : ∃ es, fs.root.getAt dest.names = some (.dir es)
  depth : fuel < walkFuel
  src : ∀ e ∈ items, PlainTarget fs e.path ∧ e.path.fileName = some e.base ∧
    fs.root.getAt e.path.names = some e.node ∧ e.node.Copyable fuel ∧ e.path.names.length + walkFuel < 256
  ps : ∀ e ∈ items, parseIgnore fs c texts e.path = some e.ps
  gl : ∀ e ∈ items, ∀ tg, fs.root.getAt (e.path.names ++ [giName]) ≠ some (.link tg)
  nd : (items.map (·.base)).Nodup
  un : ∀ e ∈ items, ∀ e' ∈ items,
    ¬ e.path.names <+: dest.names ++ [e'.base] ∧ ¬ dest.names ++ [e'.base] <+: e.path.names
  len : dest.names.length + 1 + walkFuel < 256

theorem multi_gitignore_overlay (fs : Fs) (c : Cfg) (texts : GiTexts) (dest : RPath) (items : List GiSrc) (fuel : Nat)
    (H : GiHyp fs c texts dest items fuel)
    (hd : c.dereference = false) (hn : c.noClobber = false) (hnt : c.noTargetDir = false)
    (hdest : PlainTarget fs dest)
    (hcomp : ∀ e ∈ items, Compatible (fs.root.getAt (dest.names ++ [e.base])) (Node.prune e.ps [] e.node)) :
    ∃ fs', runSources fs c texts dest (items.map (·.path)) = ⟨.ok, fs'⟩ ∧
      FsEq fs' { fs with root := overlayAll fs.root dest.names (items.map GiSrc.pruned) fs.root } := by
  obtain ⟨hwf, hdd, hfuel, hsrc, hps, hgl, hnd, hun, hlen⟩ := H
  have hitem := fun e he => plainSrc_norm hfuel (hsrc e he)
  have hdl : dest.names.length + 1 + 63 < 256 := by rw [walkFuel_eq] at hlen; omega
  obtain ⟨es0, hes0⟩ := hdd
  have hTs : ∀ T ∈ items.map (fun e => dest.names ++ [e.base]), ¬ T <+: dest.names := by
    intro T hT
    obtain ⟨e, _, rfl⟩ := List.mem_map.1 hT
    exact child_not_prefix dest.names e.base
  have h := foldRun_overlay (cp := GiSrc.pruned) hes0 hTs items fs (by rw [map_pruned_base]; exact hnd)
    (fun e he => List.mem_map_of_mem he)
    (fun e he => overlay_WF 63 _ (copyable_prune e.ps 63 e.node (hitem e he).2.2.2.2.1 []) _
      (fun x hx => subtree_WF hwf.2.1 hx))
    hcomp
    (fun e he => by
      obtain ⟨hpe, hfn, hsn, hnl, hcop, hl⟩ := hitem e he
      refine exactStep_runSourceGi c texts hd hn hnt hes0 hTs e hpe hfn hsn hnl hcop (hps e he) (hgl e he) ?_
        (List.mem_map_of_mem he) hl hdl
      intro T hT
      obtain ⟨e', he', rfl⟩ := List.mem_map.1 hT
      exact ⟨(hun e he e' he').2, (hun e he e' he').1⟩)
    (Ready.init hwf _ _)
  rw [← foldRun_map, ← runSources_eq_foldRun, ← plainTarget_eq fs dest hdest] at h
  exact h

/-! ## The per-source reading, on an instance

`/A` = { `.gitignore` (content 10: the line `x`), `x`, `y` }, `/B` = { `.gitignore` (content 11: the line `y`), `x`,
`y` }, and an empty directory `/D`; the run is `xcp -r --gitignore /A /B /D`.  The name `x` is excluded by the first
source's file only: it is absent under `/D/A` and present under `/D/B`; `y` the other way round. -/
namespace MultiGiExample

def nA : Name := [65]
def nB : Name := [66]
def nD : Name := [68]
def nx : Name := [120]
def ny : Name := [121]

def nodeA : Node := .dir [(giName, .file 10), (nx, .file 1), (ny, .file 2)]
def nodeB : Node := .dir [(giName, .file 11), (nx, .file 3), (ny, .file 4)]
def rootN : Node := .dir [(nA, nodeA), (nB, nodeB), (nD, .dir [])]
def fs0 : Fs := ⟨rootN, []⟩
def c0 : Cfg := { gitignore := true }
/-- the texts of the two `.gitignore` files: `x⏎` and `y⏎` -/
def texts0 : GiTexts := [(10, [120, 10]), (11, [121, 10])]
def psA : List Gi.Pattern := Gi.parse [120, 10]
def psB : List Gi.Pattern := Gi.parse [121, 10]
def itemA : GiSrc := ⟨plainPath [nA], nA, nodeA, psA⟩
def itemB : GiSrc := ⟨plainPath [nB], nB, nodeB, psB⟩
def items0 : List GiSrc := [itemA, itemB]

theorem parseA : parseIgnore fs0 c0 texts0 (plainPath [nA]) = some psA := by rfl
theorem parseB : parseIgnore fs0 c0 texts0 (plainPath [nB]) = some psB := by rfl

theorem prunedA : Node.prune psA [] nodeA = .dir [(giName, .file 10), (ny, .file 2)] := by rfl
theorem prunedB : Node.prune psB [] nodeB = .dir [(giName, .file 11), (nx, .file 3)] := by rfl

theorem fs0_wf : FsEq fs0 fs0 := by
  have h : rootN.Copyable 3 := by
    simp [rootN, nodeA, nodeB, Node.Copyable, Node.Copyable.CopyableL, nA, nB, nD, nx, ny, giName]
  exact ⟨rfl, copyable_WF 3 _ h, copyable_WF 3 _ h, SameObs.refl _⟩

theorem plain_of_get (ns : List Name) (x : Node) (h : fs0.root.getAt (plainPath ns).names = some x)
    (hx : x.isLink = false) : PlainTarget fs0 (plainPath ns) :=
  ⟨rfl, rfl, (plainPath_namesOnly _).2.2, noLinkUpto_of_getAt h hx⟩

theorem mem_items {e : GiSrc} (he : e ∈ items0) : e = itemA ∨ e = itemB := by
  simpa [items0] using he

/-- the run succeeds; `x` is not under `/D/A` but is under `/D/B`; `y` is under `/D/A` but not under `/D/B` -/
theorem example_run :
    ∃ fs', runSources fs0 c0 texts0 (plainPath [nD]) [plainPath [nA], plainPath [nB]] = ⟨.ok, fs'⟩ ∧
      obsAt fs'.root [nD, nA, nx] = none ∧ obsAt fs'.root [nD, nB, nx] = some (.file 3) ∧
      obsAt fs'.root [nD, nA, ny] = some (.file 2) ∧ obsAt fs'.root [nD, nB, ny] = none := by
  have h := multi_gitignore_overlay fs0 c0 texts0 (plainPath [nD]) items0 2 ⟨fs0_wf, ⟨[], by rfl⟩, by decide,
    (by
      intro e he
      rcases mem_items he with rfl | rfl
      · exact ⟨plain_of_get [nA] nodeA (by rfl) rfl, by rfl, by rfl,
          by simp [itemA, nodeA, Node.Copyable, Node.Copyable.CopyableL, nx, ny, giName], by decide⟩
      · exact ⟨plain_of_get [nB] nodeB (by rfl) rfl, by rfl, by rfl,
          by simp [itemB, nodeB, Node.Copyable, Node.Copyable.CopyableL, nx, ny, giName], by decide⟩),
    (by
      intro e he
      rcases mem_items he with rfl | rfl
      · exact parseA
      · exact parseB),
    (by
      intro e he tg
      rcases mem_items he with rfl | rfl
      · exact fun h => by cases (show some (Node.file 10) = _ from h)
      · exact fun h => by cases (show some (Node.file 11) = _ from h)),
    by decide,
    (by
      intro e he e' he'
      rcases mem_items he with rfl | rfl <;> rcases mem_items he' with rfl | rfl <;> decide),
    by decide⟩ rfl rfl rfl (plain_of_get [nD] (.dir []) (by rfl) rfl)
    (by
      intro e he
      rcases mem_items he with rfl | rfl
      · exact compatible_none _
      · exact compatible_none _)
  obtain ⟨fs', hrun, heq⟩ := h
  exact ⟨fs', hrun, (heq.2.2.2 _).trans (by rfl), (heq.2.2.2 _).trans (by rfl), (heq.2.2.2 _).trans (by rfl),
    (heq.2.2.2 _).trans (by rfl)⟩

end MultiGiExample

end Xcp
