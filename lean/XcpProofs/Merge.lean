import XcpProofs.Legal
/-! `merge_extents`: coverage is kept, only unit gaps are added, the output begins and ends at input
boundaries and is well-formed; the overflow-checked variant.  The lemmas speak of `mergeGo (some p) l`, the
loop with accumulator `p` over the list `p :: l`; `mergeExtents (e :: es)` is `mergeGo (some e) es`. -/
namespace Xcp

/-- the accumulator of `mergeGo` as a list: with it `mergeGoChk_some` speaks of accumulator and input at once -/
def pl : Option Extent → List Extent
  | none => []
  | some p => [p]

theorem WF_tail {e : Extent} {l : List Extent} (h : WF (e :: l)) : WF l := by
  cases l with
  | nil => trivial
  | cons f r => exact h.2.2

theorem WF_head {e : Extent} {l : List Extent} (h : WF (e :: l)) : e.start < e.stop := by
  cases l with
  | nil => exact h
  | cons f r => exact h.1

theorem WF_merge {p e : Extent} {es : List Extent} (s : Bool) (hw : WF (p :: e :: es)) :
    WF (⟨p.start, e.stop, s⟩ :: es) := by
  obtain ⟨hp, hpe, hw'⟩ := hw
  have h : p.start < e.stop := Nat.lt_trans (Nat.lt_of_lt_of_le hp hpe) (WF_head hw')
  cases es with
  | nil => exact h
  | cons f r => exact ⟨h, hw'.2.1, hw'.2.2⟩

theorem covers_cons (e : Extent) (l : List Extent) (b : Nat) :
    covers (e :: l) b ↔ (e.start ≤ b ∧ b < e.stop) ∨ covers l b :=
  ⟨fun ⟨x, hx, hc⟩ => (List.mem_cons.mp hx).elim (fun h => .inl (h ▸ hc)) (fun hx => .inr ⟨x, hx, hc⟩),
   fun h => h.elim (fun hc => ⟨e, List.mem_cons_self, hc⟩) (fun ⟨x, hx, hc⟩ => ⟨x, List.mem_cons_of_mem _ hx, hc⟩)⟩

/-- Induction on `l` with the accumulator general.  Only the merging step has content: the new accumulator
`[p.start, e.stop)` is `p`, the byte `p.stop`, and `e`, and a unit gap the tail reports against it is one of
`e` (as left extent) or `p` (as right extent). -/
theorem mergeGo_covers (p : Extent) (l : List Extent) (hw : WF (p :: l)) (b : Nat) :
    (covers (p :: l) b → covers (mergeGo (some p) l) b) ∧
    (covers (mergeGo (some p) l) b →
      covers (p :: l) b ∨ ∃ x ∈ p :: l, ∃ y ∈ p :: l, y.start = x.stop + 1 ∧ b = x.stop) := by
  induction l generalizing p with
  | nil => exact ⟨id, Or.inl⟩
  | cons e es ih =>
    have hp : p.start < p.stop := hw.1
    have hpe : p.stop ≤ e.start := hw.2.1
    have he : e.start < e.stop := WF_head hw.2.2
    by_cases heq : e.start = p.stop + 1
    · rw [mergeGo, if_pos heq]
      obtain ⟨ih1, ih2⟩ := ih _ (WF_merge (p.shared && e.shared) hw)
      rw [covers_cons] at ih1 ih2
      rw [covers_cons, covers_cons]
      constructor
      · rintro (h | h | h)
        · exact ih1 (.inl ⟨h.1, show b < e.stop by omega⟩)
        · exact ih1 (.inl ⟨show p.start ≤ b by omega, h.2⟩)
        · exact ih1 (.inr h)
      · intro h
        rcases ih2 h with (⟨h1, h2⟩ | h) | ⟨x, hx, y, hy, hxy, hb⟩
        · by_cases c1 : b < p.stop
          · exact .inl (.inl ⟨h1, c1⟩)
          · by_cases c2 : b = p.stop
            · exact .inr ⟨p, List.mem_cons_self, e, List.mem_cons_of_mem _ List.mem_cons_self, heq, c2⟩
            · exact .inl (.inr (.inl ⟨by omega, h2⟩))
        · exact .inl (.inr (.inr h))
        · right
          rcases List.mem_cons.mp hx with rfl | hx <;> rcases List.mem_cons.mp hy with rfl | hy
          · exact absurd hxy (by show p.start ≠ e.stop + 1; omega)
          · exact ⟨e, List.mem_cons_of_mem _ List.mem_cons_self, y,
              List.mem_cons_of_mem _ (List.mem_cons_of_mem _ hy), hxy, hb⟩
          · exact ⟨x, List.mem_cons_of_mem _ (List.mem_cons_of_mem _ hx), p, List.mem_cons_self, hxy, hb⟩
          · exact ⟨x, List.mem_cons_of_mem _ (List.mem_cons_of_mem _ hx), y,
              List.mem_cons_of_mem _ (List.mem_cons_of_mem _ hy), hxy, hb⟩
    · rw [mergeGo, if_neg heq]
      obtain ⟨ih1, ih2⟩ := ih e hw.2.2
      rw [covers_cons, covers_cons p]
      constructor
      · exact Or.imp_right ih1
      · rintro (h | h)
        · exact .inl (.inl h)
        · rcases ih2 h with h | ⟨x, hx, y, hy, hxy, hb⟩
          · exact .inl (.inr h)
          · exact .inr ⟨x, List.mem_cons_of_mem _ hx, y, List.mem_cons_of_mem _ hy, hxy, hb⟩

theorem merge_covers (l : List Extent) (hw : WF l) (b : Nat) (h : covers l b) : covers (mergeExtents l) b :=
  match l with
  | [] => h
  | e :: es => (mergeGo_covers e es hw b).1 h

theorem merge_sound (l : List Extent) (hw : WF l) (b : Nat) (h : covers (mergeExtents l) b) :
    covers l b ∨ ∃ x ∈ l, ∃ y ∈ l, y.start = x.stop + 1 ∧ b = x.stop :=
  match l with
  | [] => .inl h
  | e :: es => (mergeGo_covers e es hw b).2 h

theorem mergeGo_boundaries (p : Extent) (l : List Extent) :
    ∀ m ∈ mergeGo (some p) l,
      (∃ e ∈ p :: l, e.start = m.start) ∧ (∃ e ∈ p :: l, e.stop = m.stop) := by
  induction l generalizing p with
  | nil =>
    intro m hm
    obtain rfl := List.mem_singleton.mp hm
    exact ⟨⟨m, List.mem_cons_self, rfl⟩, ⟨m, List.mem_cons_self, rfl⟩⟩
  | cons e es ih =>
    intro m hm
    by_cases heq : e.start = p.stop + 1
    · rw [mergeGo, if_pos heq] at hm
      obtain ⟨⟨x, hx, h1⟩, ⟨y, hy, h2⟩⟩ := ih _ m hm
      constructor
      · rcases List.mem_cons.mp hx with rfl | hx
        · exact ⟨p, List.mem_cons_self, h1⟩
        · exact ⟨x, List.mem_cons_of_mem _ (List.mem_cons_of_mem _ hx), h1⟩
      · rcases List.mem_cons.mp hy with rfl | hy
        · exact ⟨e, List.mem_cons_of_mem _ List.mem_cons_self, h2⟩
        · exact ⟨y, List.mem_cons_of_mem _ (List.mem_cons_of_mem _ hy), h2⟩
    · rw [mergeGo, if_neg heq] at hm
      rcases List.mem_cons.mp hm with rfl | hm
      · exact ⟨⟨m, List.mem_cons_self, rfl⟩, ⟨m, List.mem_cons_self, rfl⟩⟩
      · obtain ⟨⟨x, hx, h1⟩, ⟨y, hy, h2⟩⟩ := ih e m hm
        exact ⟨⟨x, List.mem_cons_of_mem _ hx, h1⟩, ⟨y, List.mem_cons_of_mem _ hy, h2⟩⟩

theorem merge_boundaries (l : List Extent) :
    ∀ m ∈ mergeExtents l, (∃ e ∈ l, e.start = m.start) ∧ (∃ e ∈ l, e.stop = m.stop) :=
  match l with
  | [] => fun _ hm => nomatch hm
  | e :: es => mergeGo_boundaries e es

theorem mergeGo_head (p : Extent) (l : List Extent) :
    ∃ h t, mergeGo (some p) l = h :: t ∧ h.start = p.start := by
  induction l generalizing p with
  | nil => exact ⟨p, [], rfl, rfl⟩
  | cons e es ih =>
    by_cases heq : e.start = p.stop + 1
    · rw [mergeGo, if_pos heq]
      exact ih _
    · rw [mergeGo, if_neg heq]
      exact ⟨p, _, rfl, rfl⟩

theorem mergeGo_wf (p : Extent) (l : List Extent) (hw : WF (p :: l)) : WF (mergeGo (some p) l) := by
  induction l generalizing p with
  | nil => exact hw
  | cons e es ih =>
    by_cases heq : e.start = p.stop + 1
    · rw [mergeGo, if_pos heq]
      exact ih _ (WF_merge _ hw)
    · rw [mergeGo, if_neg heq]
      obtain ⟨h, t, e1, e2⟩ := mergeGo_head e es
      have h1 := ih e hw.2.2
      rw [e1] at h1 ⊢
      exact ⟨hw.1, e2 ▸ hw.2.1, h1⟩

theorem merge_wf (l : List Extent) (hw : WF l) : WF (mergeExtents l) :=
  match l with
  | [] => hw
  | e :: es => mergeGo_wf e es hw

theorem mergeGoChk_some_eq (p : Extent) (l r : List Extent) (h : mergeGoChk (some p) l = some r) :
    r = mergeGo (some p) l := by
  induction l generalizing p r with
  | nil => exact (Option.some.inj h).symm
  | cons e es ih =>
    rw [mergeGoChk] at h
    split at h
    · nomatch h
    · by_cases heq : e.start = p.stop + 1
      · rw [if_pos heq] at h
        rw [mergeGo, if_pos heq]
        exact ih _ r h
      · rw [if_neg heq] at h
        rw [mergeGo, if_neg heq]
        obtain ⟨q, hq, rfl⟩ := Option.map_eq_some_iff.mp h
        rw [ih e q hq]

theorem mergeGoChk_eq (l r : List Extent) (h : mergeGoChk none l = some r) : r = mergeExtents l :=
  match l with
  | [] => (Option.some.inj h).symm
  | e :: es => mergeGoChk_some_eq e es r h

theorem mergeGoChk_isSome (p : Extent) (l : List Extent) (hp : ∀ x ∈ p :: l, x.stop + 1 < 2^64) :
    (mergeGoChk (some p) l).isSome := by
  induction l generalizing p with
  | nil => rfl
  | cons e es ih =>
    rw [mergeGoChk, if_neg (Nat.not_le.mpr (hp p List.mem_cons_self))]
    have hes : ∀ x ∈ e :: es, x.stop + 1 < 2^64 := fun x hx => hp x (List.mem_cons_of_mem _ hx)
    split
    · exact ih _ fun x hx => (List.mem_cons.mp hx).elim (fun h => h ▸ hes e List.mem_cons_self)
        (fun hx => hes x (List.mem_cons_of_mem _ hx))
    · rw [Option.isSome_map]
      exact ih e hes

/-- it panics only if some extent ends at `u64::MAX` -/
theorem mergeGoChk_some (p : Option Extent) (l : List Extent)
    (hp : ∀ x ∈ pl p ++ l, x.stop + 1 < 2^64) : (mergeGoChk p l).isSome :=
  match p, l with
  | some p, l => mergeGoChk_isSome p l hp
  | none, [] => rfl
  | none, e :: es => mergeGoChk_isSome e es hp

end Xcp
