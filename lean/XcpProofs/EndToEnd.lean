import XcpProofs.MultiSource
/-! # The whole program model

The function the correspondence check runs against the real program, `L1run fs o texts` — main's
up-front validation followed by the sequential run over all sources — for the invocation `xcp -r s1 … sn DEST` with
`DEST` an existing directory: validation accepts and the run ends in the initial tree with every `DEST/bi` overlaid
with the source tree `ni` (`l1run_overlay`).

Which fields of `Opts` matter: `cfg.recursive = true` (a directory source is refused otherwise), `glob = false`
(no expansion), the argument list (`paths` = sources then destination, or `targetDir = some dest` and `paths` = the
sources).  `force` does not matter (it is only refused together with `noClobber`, which is off).  The paths are
absolute, so the working directory does not matter.  No hypothesis beyond those of `multi_overlay` is needed for the
validation: every source exists (it designates a node, through no link); `DEST` is a directory, so several sources
are fine; no source is spelled like `DEST` or its target `DEST/bi`, nor is the same file (unrelated plain paths);
a directory source meets at `DEST/bi` nothing or a directory (`Compatible`). -/
namespace Xcp

theorem same_plain_false {sn tn : List Name} (h : sn ≠ tn) : (plainPath sn).same (plainPath tn) = false := by
  have : ¬ sn.map Comp.name = tn.map Comp.name := fun e => h ((List.map_inj_right (fun _ _ e => Comp.name.inj e)).1 e)
  simp [RPath.same, plainPath, this]

theorem splitLastPath_append (l : List RPath) (d : RPath) : splitLastPath (l ++ [d]) = some (d, l) := by
  induction l with
  | nil => rfl
  | cons x r ih =>
    cases hr : r ++ [d] with
    | nil => simp at hr
    | cons y s =>
      simp only [List.cons_append, hr, splitLastPath]
      rw [← hr, ih]

theorem lastComp_abs (p : RPath) (h : p.abs = true) : ∃ sd, p.lastComp = some sd := by
  unfold RPath.lastComp
  cases lastOf p.comps with
  | some c => exact ⟨_, rfl⟩
  | none => simp [h]

theorem exists_plain (g : Fs) (ns : List Name) (x : Node) (hlen : ns.length < 256)
    (hx : g.root.getAt ns = some x) (hl : x.isLink = false) : g.exists (plainPath ns) = true := by
  simp [Fs.exists, stat_of_getAt g ns x (le_256_of_lt hlen) hx hl]

theorem isDir_plain (g : Fs) (ns : List Name) (x : Node) (hlen : ns.length < 256)
    (hx : g.root.getAt ns = some x) (hl : x.isLink = false) : g.isDir (plainPath ns) = x.isDir := by
  simp [Fs.isDir, stat_of_getAt g ns x (le_256_of_lt hlen) hx hl]

theorem exists_false_of_absent (g : Fs) (par : List Name) (nm : Name) (es : Entries) (hlen : par.length < 256)
    (hp : g.root.getAt par = some (.dir es)) (hn : g.root.getAt (par ++ [nm]) = none) :
    g.exists (plainPath (par ++ [nm])) = false := by
  have hr := resolve_plain_missing g par nm true es hlen hp hn
  simp [Fs.exists, stat_none_of_missing g _ par nm hr]

theorem compatible_some {x n : Node} (h : Compatible (some x) n) :
    x.isLink = false ∧ (n.isDir = true → x.isDir = true) := by
  cases x <;> cases n <;> simp [Compatible, Node.compatible, Node.isLink, Node.isDir] at h ⊢

theorem checkSource_ok (fs : Fs) (o : Opts) (dest s tb : RPath) (hex : fs.exists s = true)
    (hrec : o.cfg.recursive = true) (hsd : s.same dest = false)
    (htb : targetBase fs o.cfg dest s = some tb) (hst : s.same tb = false)
    (htail : fs.exists tb = true → fs.sameFile s tb = false ∧ (fs.isDir s = true → fs.isDir tb = true)) :
    checkSource fs o dest s = .ok () := by
  simp only [checkSource, hex, hrec, hsd, htb, hst]
  cases hxt : fs.exists tb with
  | false => simp
  | true =>
    obtain ⟨h1, h2⟩ := htail hxt
    cases hds : fs.isDir s with
    | false => simp [h1]
    | true => simp [h1, h2 hds]

/-- main's per-source checks under `-L`, for a source copied into the existing directory `dn`: they look at the
spelled path (`same`) and at what it resolves to through links (`exists`, `isDir`, `sameFile`) -/
theorem checkSource_into_dir_deref (fs : Fs) (o : Opts) (hrec : o.cfg.recursive = true)
    (hnt : o.cfg.noTargetDir = false)
    (dn sn cp : List Name) (b : Name) (node : Node) (es : Entries)
    (hd : fs.root.getAt dn = some (.dir es)) (hst : fs.stat (plainPath sn) = some (cp, node))
    (hb : (plainPath sn).fileName = some b)
    (hne1 : sn ≠ dn) (hne2 : sn ≠ dn ++ [b]) (hcp : cp ≠ dn ++ [b])
    (hxl : ∀ x, fs.root.getAt (dn ++ [b]) = some x → x.isLink = false ∧ (node.isDir = true → x.isDir = true))
    (hl2 : dn.length + 1 < 256) :
    checkSource fs o (plainPath dn) (plainPath sn) = .ok () := by
  apply checkSource_ok fs o _ _ (plainPath (dn ++ [b])) (by simp [Fs.exists, hst]) hrec
    (same_plain_false hne1) (targetBase_dir fs o.cfg hnt dn es _ b hb (by omega) hd) (same_plain_false hne2)
  intro hxt
  cases hx : fs.root.getAt (dn ++ [b]) with
  | none =>
    rw [exists_false_of_absent fs dn b es (by omega) hd hx] at hxt
    cases hxt
  | some x =>
    obtain ⟨hxlk, hxd⟩ := hxl x hx
    have hlt : (dn ++ [b]).length < 256 := by simpa using hl2
    have hstt := stat_of_getAt fs _ x (le_256_of_lt hlt) hx hxlk
    constructor
    · simp [Fs.sameFile, hst, hstt, hcp]
    · intro hds
      have hnd : node.isDir = true := by simpa [Fs.isDir, hst] using hds
      simp [Fs.isDir, hstt, hxd hnd]

/-- … in particular for a source that is itself a node of the tree, unrelated to its target, meeting something
compatible there -/
theorem checkSource_into_dir (fs : Fs) (o : Opts) (hrec : o.cfg.recursive = true) (hnt : o.cfg.noTargetDir = false)
    (dn sn : List Name) (b : Name) (n : Node) (es : Entries)
    (hd : fs.root.getAt dn = some (.dir es)) (hsn : fs.root.getAt sn = some n) (hnl : n.isLink = false)
    (hb : (plainPath sn).fileName = some b)
    (hun1 : ¬ sn <+: dn ++ [b]) (hcomp : Compatible (fs.root.getAt (dn ++ [b])) n)
    (hl1 : sn.length < 256) (hl2 : dn.length + 1 < 256) :
    checkSource fs o (plainPath dn) (plainPath sn) = .ok () :=
  have hne2 : sn ≠ dn ++ [b] := fun e => hun1 (e ▸ List.prefix_refl _)
  checkSource_into_dir_deref fs o hrec hnt dn sn sn b n es hd (stat_of_getAt fs sn n (le_256_of_lt hl1) hsn hnl) hb
    (fun e => hun1 (e ▸ List.prefix_append _ _)) hne2 hne2 (fun _ hx => compatible_some (hx ▸ hcomp)) hl2

theorem targetBase_absent (fs : Fs) (c : Cfg) (dest s : RPath) (hs : s.abs = true)
    (hx : fs.exists dest = false) : targetBase fs c dest s = some dest := by
  obtain ⟨sd, hsd⟩ := lastComp_abs s hs
  simp [targetBase, hsd, hx]

/-- a source copied to a new name below an existing directory: the target is the destination itself -/
theorem checkSource_to_new (fs : Fs) (o : Opts) (hrec : o.cfg.recursive = true)
    (par sn : List Name) (nm : Name) (n : Node) (es : Entries)
    (hp : fs.root.getAt par = some (.dir es)) (habs : fs.root.getAt (par ++ [nm]) = none)
    (hsn : fs.root.getAt sn = some n) (hnl : n.isLink = false)
    (hl1 : sn.length < 256) (hl2 : par.length < 256) :
    checkSource fs o (plainPath (par ++ [nm])) (plainPath sn) = .ok () := by
  have hne : sn ≠ par ++ [nm] := fun e => by rw [e, habs] at hsn; cases hsn
  have hx := exists_false_of_absent fs par nm es hl2 hp habs
  apply checkSource_ok fs o _ _ (plainPath (par ++ [nm])) (exists_plain fs sn n hl1 hsn hnl) hrec
    (same_plain_false hne) (targetBase_absent fs o.cfg _ _ rfl hx) (same_plain_false hne)
  intro hxt
  rw [hx] at hxt
  cases hxt

theorem argSplit_of_paths {o : Opts} {dest : RPath} {srcs : List RPath}
    (hpaths : (o.targetDir = none ∧ o.paths = srcs ++ [dest]) ∨ (o.targetDir = some dest ∧ o.paths = srcs)) :
    argSplit o = some (dest, srcs) := by
  unfold argSplit
  rcases hpaths with ⟨ht, hp⟩ | ⟨ht, hp⟩
  · rw [ht, hp]; exact splitLastPath_append srcs dest
  · rw [ht, hp]

/-- main's validation accepts sources and destination as spelled: no `-n` (so no `-n -f`), no glob expansion, at least
one source, the per-source checks pass, and the destination is a directory — or there is one source and no
destination yet -/
theorem validate_ok (fs : Fs) (o : Opts) (dest : RPath) (srcs : List RPath) (hn : o.cfg.noClobber = false)
    (hglob : o.glob = false)
    (hpaths : (o.targetDir = none ∧ o.paths = srcs ++ [dest]) ∨ (o.targetDir = some dest ∧ o.paths = srcs))
    (hne : srcs ≠ []) (hdst : fs.isDir dest = true ∨ (srcs.length = 1 ∧ fs.exists dest = false))
    (hcs : checkSources fs o dest srcs = .ok ()) : validate fs o = .ok (srcs, dest) := by
  have hne' : srcs.isEmpty = false := by
    cases srcs with
    | nil => exact absurd rfl hne
    | cons a r => rfl
  rw [validate_eq, argSplit_of_paths hpaths]
  simp only [hn, Bool.false_and, Bool.false_eq_true, if_false, validateRest, expandSources_noglob fs o srcs hglob, hne',
    hcs]
  rcases hdst with hd | ⟨h1, hx⟩
  · simp [hd]
  · simp [h1, hx]

/-- several sources into an existing directory, the whole invocation: main's checks accept `xcp -r s1 … sn DEST`, and `L1run`
(validation, then every source in argv order) succeeds and ends — up to the order of directory entries — in the initial
tree with each `dest/bi` overlaid with the source tree `ni` -/
theorem l1run_overlay (fs : Fs) (o : Opts) (texts : GiTexts) (dest : RPath) (items : List CopySrc) (fuel : Nat)
    (H : MultiHyp fs dest items fuel)
    (hd : o.cfg.dereference = false) (hn : o.cfg.noClobber = false) (hg : o.cfg.gitignore = false)
    (hnt : o.cfg.noTargetDir = false) (hrec : o.cfg.recursive = true) (hglob : o.glob = false)
    (hpaths : (o.targetDir = none ∧ o.paths = items.map (·.path) ++ [dest]) ∨
      (o.targetDir = some dest ∧ o.paths = items.map (·.path)))
    (hne : items ≠ []) (hdest : PlainTarget fs dest)
    (hcomp : ∀ e ∈ items, Compatible (fs.root.getAt (dest.names ++ [e.base])) e.node) :
    validate fs o = .ok (items.map (·.path), dest) ∧
    ∃ fs', L1run fs o texts = ⟨.ok, fs'⟩ ∧
      FsEq fs' { fs with root := overlayAll fs.root dest.names items fs.root } := by
  have hde := plainTarget_eq fs dest hdest
  obtain ⟨es, hes⟩ := H.dd
  have hdl := H.destLen
  have hv : validate fs o = .ok (items.map (·.path), dest) := by
    apply validate_ok fs o dest _ hn hglob hpaths (fun h => hne (List.map_eq_nil_iff.1 h))
    · left
      rw [hde, isDir_plain fs dest.names _ (by omega) hes rfl]
      rfl
    · apply (checkSources_ok_iff fs o dest _).2
      intro s hs
      obtain ⟨e, he, rfl⟩ := List.mem_map.1 hs
      obtain ⟨hpe, hfn, hsn, hnl, _, hl⟩ := H.item he
      rw [hde, hpe]
      exact checkSource_into_dir fs o hrec hnt dest.names e.path.names e.base e.node es hes hsn hnl
        (by rw [← hpe]; exact hfn) (H.un e he e he).1 (hcomp e he) (by omega) (by omega)
  refine ⟨hv, ?_⟩
  simp only [L1run, hv]
  exact multi_overlay fs o.cfg texts dest items fuel H hd hn hg hnt hdest hcomp

end Xcp
