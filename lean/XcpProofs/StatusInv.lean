import XcpModel.Status
import XcpProofs.ListAux
import XcpProofs.Lts
/-! Invariants of the status-update stream model (`Xcp.Status`), for every reachable state: conservation of the
announced bytes and the prefix monitor as a proposition (`PrefixFine`); and the batching of `channelRun`: every prefix
of the delivered stream is dominated by a prefix of the sent stream. -/
namespace Xcp.Status

open Xcp

@[simp] theorem sumCopied_nil : sumCopied [] = 0 := rfl
@[simp] theorem sumSize_nil : sumSize [] = 0 := rfl
@[simp] theorem hasError_nil : hasError [] = false := rfl
@[simp] theorem sumCopied_copied (n : Nat) (r : List Update) : sumCopied (.copied n :: r) = n + sumCopied r := rfl
@[simp] theorem sumCopied_size (n : Nat) (r : List Update) : sumCopied (.size n :: r) = sumCopied r := rfl
@[simp] theorem sumCopied_error (r : List Update) : sumCopied (.error :: r) = sumCopied r := rfl
@[simp] theorem sumSize_copied (n : Nat) (r : List Update) : sumSize (.copied n :: r) = sumSize r := rfl
@[simp] theorem sumSize_size (n : Nat) (r : List Update) : sumSize (.size n :: r) = n + sumSize r := rfl
@[simp] theorem sumSize_error (r : List Update) : sumSize (.error :: r) = sumSize r := rfl
@[simp] theorem hasError_copied (n : Nat) (r : List Update) : hasError (.copied n :: r) = hasError r := rfl
@[simp] theorem hasError_size (n : Nat) (r : List Update) : hasError (.size n :: r) = hasError r := rfl
@[simp] theorem hasError_error (r : List Update) : hasError (.error :: r) = true := rfl

theorem sumCopied_append (l m : List Update) : sumCopied (l ++ m) = sumCopied l + sumCopied m := by
  induction l with
  | nil => simp
  | cons a l ih => cases a <;> simp [ih, Nat.add_assoc]

theorem sumSize_append (l m : List Update) : sumSize (l ++ m) = sumSize l + sumSize m := by
  induction l with
  | nil => simp
  | cons a l ih => cases a <;> simp [ih, Nat.add_assoc]

theorem hasError_append (l m : List Update) : hasError (l ++ m) = (hasError l || hasError m) := by
  induction l with
  | nil => simp
  | cons a l ih => cases a <;> simp [ih]

/-- every prefix reports no more copied than announced -/
def PrefixFine (l : List Update) : Prop := ∀ n, sumCopied (l.take n) ≤ sumSize (l.take n)

theorem prefixOk_iff (l : List Update) : prefixOk l = true ↔ PrefixFine l := by
  unfold prefixOk PrefixFine
  simp only [List.all_eq_true, List.mem_range, decide_eq_true_eq]
  constructor
  · intro h n
    by_cases hn : n < l.length + 1
    · exact h n hn
    · have e : l.take n = l.take l.length := by
        rw [List.take_of_length_le (by omega), List.take_of_length_le (Nat.le_refl _)]
      rw [e]; exact h _ (by omega)
  · intro h n _; exact h n

theorem PrefixFine.whole {l : List Update} (h : PrefixFine l) : sumCopied l ≤ sumSize l := by
  have := h l.length
  rwa [List.take_of_length_le (Nat.le_refl _)] at this

theorem prefixFine_nil : PrefixFine [] := by intro n; simp

theorem prefixFine_snoc {l : List Update} {u : Update} (h : PrefixFine l)
    (hw : sumCopied (l ++ [u]) ≤ sumSize (l ++ [u])) : PrefixFine (l ++ [u]) := by
  intro n
  by_cases hn : n ≤ l.length
  · have e : (l ++ [u]).take n = l.take n := by
      rw [List.take_append]
      have : n - l.length = 0 := by omega
      simp [this]
    rw [e]; exact h n
  · rw [List.take_of_length_le (by simp; omega)]; exact hw

theorem channelRun_nil (b sent : Nat) : channelRun b sent [] = [] := rfl

theorem channelRun_copied (b sent n : Nat) (r : List Update) :
    channelRun b sent (.copied n :: r) =
      if (sent + n) / b > sent / b then .copied n :: channelRun b (sent + n) r else channelRun b (sent + n) r := by
  simp only [channelRun, channelSend]
  by_cases h : (sent + n) / b > sent / b <;> simp [h]

theorem channelRun_size (b sent n : Nat) (r : List Update) :
    channelRun b sent (.size n :: r) = .size n :: channelRun b sent r := by
  simp [channelRun, channelSend]

theorem channelRun_error (b sent : Nat) (r : List Update) :
    channelRun b sent (.error :: r) = .error :: channelRun b sent r := by
  simp [channelRun, channelSend]

theorem channelRun_sums (b : Nat) : ∀ (us : List Update) (sent : Nat),
    sumCopied (channelRun b sent us) ≤ sumCopied us ∧ sumSize (channelRun b sent us) = sumSize us ∧
    hasError (channelRun b sent us) = hasError us
  | [], sent => by simp [channelRun_nil]
  | .copied n :: r, sent => by
    obtain ⟨h1, h2, h3⟩ := channelRun_sums b r (sent + n)
    rw [channelRun_copied]
    split
    · simp [h2, h3]; omega
    · simp [h2, h3]; omega
  | .size n :: r, sent => by
    obtain ⟨h1, h2, h3⟩ := channelRun_sums b r sent
    rw [channelRun_size]; simp [h2, h3]; omega
  | .error :: r, sent => by
    obtain ⟨h1, h2, h3⟩ := channelRun_sums b r sent
    rw [channelRun_error]; simp [h2]; omega

/-- every prefix of the delivered stream is dominated by a prefix of the sent stream: same announced total,
at least as much reported -/
theorem channelRun_prefix (b : Nat) : ∀ (us : List Update) (sent n : Nat),
    ∃ m, sumSize (us.take m) = sumSize ((channelRun b sent us).take n) ∧
      sumCopied ((channelRun b sent us).take n) ≤ sumCopied (us.take m)
  | _, _, 0 => ⟨0, by simp⟩
  | [], sent, n + 1 => ⟨0, by simp [channelRun_nil]⟩
  | .copied k :: r, sent, n + 1 => by
    rw [channelRun_copied]
    split
    · obtain ⟨m, h1, h2⟩ := channelRun_prefix b r (sent + k) n
      exact ⟨m + 1, by simp [h1], by simp; omega⟩
    · obtain ⟨m, h1, h2⟩ := channelRun_prefix b r (sent + k) (n + 1)
      exact ⟨m + 1, by simp [h1], by simp; omega⟩
  | .size k :: r, sent, n + 1 => by
    obtain ⟨m, h1, h2⟩ := channelRun_prefix b r sent n
    rw [channelRun_size]
    exact ⟨m + 1, by simp [h1], by simp; omega⟩
  | .error :: r, sent, n + 1 => by
    obtain ⟨m, h1, h2⟩ := channelRun_prefix b r sent n
    rw [channelRun_error]
    exact ⟨m + 1, by simp [h1], by simp; omega⟩

theorem channelRun_prefixFine (b sent : Nat) {us : List Update} (h : PrefixFine us) :
    PrefixFine (channelRun b sent us) := by
  intro n
  obtain ⟨m, h1, h2⟩ := channelRun_prefix b us sent n
  have := h m
  omega

theorem step_announce {s s' : St} (h : step s .announce = some s') :
    s.walkerDone = false ∧
    ((∃ len r, s.todo = len :: r ∧
        s' = { s with todo := r, queue := s.queue ++ [len], log := s.log ++ [.size len] }) ∨
     (s.todo = [] ∧ s' = { s with walkerDone := true })) := by
  simp only [step] at h
  split at h
  · next len r ht =>
    split at h
    · simp at h
    · next hw => exact ⟨by simpa using hw, .inl ⟨len, r, ht, by simpa using h.symm⟩⟩
  · next ht =>
    split at h
    · simp at h
    · next hw => exact ⟨by simpa using hw, .inr ⟨ht, by simpa using h.symm⟩⟩

theorem step_walkerFail {s s' : St} (h : step s .walkerFail = some s') :
    s.walkerDone = false ∧
    s' = { s with walkerDone := true, todo := [], failed := true, log := s.log ++ [.error] } := by
  simp only [step] at h
  split at h
  · simp at h
  · next hw => exact ⟨by simpa using hw, by simpa using h.symm⟩

theorem step_take {s s' : St} (h : step s .take = some s') :
    ∃ len q, s.queue = len :: q ∧ s' = { s with queue := q, active := s.active ++ [len] } := by
  simp only [step] at h
  split at h
  · next len q hq => exact ⟨len, q, hq, by simpa using h.symm⟩
  · simp at h

theorem step_copy {s s' : St} {i k : Nat} (h : step s (.copy i k) = some s') :
    ∃ rem, s.active[i]? = some rem ∧ 0 < k ∧ k ≤ rem ∧
      s' = { s with active := s.active.set i (rem - k), log := s.log ++ [.copied k], moved := s.moved + k } := by
  simp only [step] at h
  split at h
  · next rem hr =>
    split at h
    · next hk => exact ⟨rem, hr, hk.1, hk.2, by simpa using h.symm⟩
    · simp at h
  · simp at h

theorem step_finish {s s' : St} {i : Nat} (h : step s (.finish i) = some s') :
    s.active[i]? = some 0 ∧ s' = { s with active := s.active.eraseIdx i } := by
  simp only [step] at h
  split at h
  · next hr => exact ⟨hr, by simpa using h.symm⟩
  · simp at h

theorem step_fail {s s' : St} {i : Nat} (h : step s (.fail i) = some s') :
    ∃ rem, s.active[i]? = some rem ∧
      s' = { s with active := s.active.eraseIdx i, failed := true, log := s.log ++ [.error] } := by
  simp only [step] at h
  split at h
  · next rem hr => exact ⟨rem, hr, by simpa using h.symm⟩
  · simp at h

theorem run_cons (s : St) (l : Label) (ls : List Label) : run s (l :: ls) = (step s l).bind (run · ls) := by
  simp only [run]
  cases step s l <;> rfl

theorem folds_snoc_size (l : List Update) (n : Nat) : sumCopied (l ++ [.size n]) = sumCopied l ∧
    sumSize (l ++ [.size n]) = sumSize l + n ∧ hasError (l ++ [.size n]) = hasError l := by
  simp [sumCopied_append, sumSize_append, hasError_append]

theorem folds_snoc_copied (l : List Update) (n : Nat) : sumCopied (l ++ [.copied n]) = sumCopied l + n ∧
    sumSize (l ++ [.copied n]) = sumSize l ∧ hasError (l ++ [.copied n]) = hasError l := by
  simp [sumCopied_append, sumSize_append, hasError_append]

theorem folds_snoc_error (l : List Update) : sumCopied (l ++ [.error]) = sumCopied l ∧
    sumSize (l ++ [.error]) = sumSize l ∧ hasError (l ++ [.error]) = true := by
  simp [sumCopied_append, sumSize_append, hasError_append]

/-- what holds of every reachable state of the stream: conservation (`acc`), `moved` is what was reported, an error is
in the log once something failed, the walker is done only with nothing left to announce, every prefix is fine -/
structure Inv (files : List Nat) (s : St) : Prop where
  /-- conservation, with the bytes `la` abandoned by failed copies and the bytes `lt` a failed walker never
  announced: announced = reported + queued + still to move + `la`, total = announced + not yet reached + `lt` -/
  acc : ∃ la lt, sumCopied s.log + s.queue.sum + s.active.sum + la = sumSize s.log ∧
      sumSize s.log + s.todo.sum + lt = files.sum ∧ (s.failed = false → la = 0 ∧ lt = 0)
  moved_eq : sumCopied s.log = s.moved
  err    : s.failed = true → hasError s.log = true
  done   : s.walkerDone = true → s.todo = []
  fine   : PrefixFine s.log

theorem inv_init (files : List Nat) : Inv files (init files) :=
  ⟨⟨0, 0, rfl, by simp [init], fun _ => ⟨rfl, rfl⟩⟩, rfl, fun h => (nomatch h), fun h => (nomatch h),
    prefixFine_nil⟩

theorem le_of_acc {c q a la z : Nat} (h : c + q + a + la = z) : c ≤ z :=
  h ▸ Nat.le_trans (Nat.le_add_right c (q + a)) (Nat.add_assoc c q a ▸ Nat.le_add_right _ la)

/-- one summand of a measure loses more than it gains -/
theorem add_lt_add_of_sum {x a a' k k' : Nat} (h : a' + k = a + k') (hk : k' < k) : x + a' < x + a := by
  omega

/-- the conservation equation after a step, in the sums as variables -/
theorem acc_announce {c q a la z : Nat} (len : Nat) (e : c + q + a + la = z) :
    c + (q + len) + a + la = z + len := by
  rw [← e]
  simp +arith

theorem acc_take {c q a la z len : Nat} (e : c + (len + q) + a + la = z) : c + q + (a + len) + la = z := by
  rw [← e]
  simp +arith

theorem acc_copy {c q a a' la z rem k : Nat} (e : c + q + a + la = z) (hs : a' + rem = a + (rem - k))
    (hk : k ≤ rem) : c + k + q + a' + la = z := by
  omega

theorem acc_drop {c q a a' la z rem : Nat} (e : c + q + a + la = z) (hs : a' + rem = a) :
    c + q + a' + (la + rem) = z := by
  rw [← e, ← hs]
  simp +arith

theorem tot_drop {z t lt total : Nat} (e : z + t + lt = total) : z + 0 + (lt + t) = total := by
  rw [← e]
  simp +arith

/-- each label changes two or three of the sums; the `acc_*` lemmas say how the conservation equation moves with them,
and the bound for the new prefix is read off the new equation (`le_of_acc`) -/
theorem inv_step {files : List Nat} {s s' : St} (l : Label) (inv : Inv files s) (h : step s l = some s') :
    Inv files s' := by
  obtain ⟨⟨la, lt, e1, e2, e3⟩, hmoved, herr, hdone, hfine⟩ := inv
  cases l with
  | announce =>
    obtain ⟨hw, ⟨len, r, ht, rfl⟩ | ⟨ht, rfl⟩⟩ := step_announce h
    · obtain ⟨hc, hz, he⟩ := folds_snoc_size s.log len
      rw [ht, List.sum_cons] at e2
      have hacc : sumCopied (s.log ++ [.size len]) + (s.queue ++ [len]).sum + s.active.sum + la =
          sumSize (s.log ++ [.size len]) := by
        rw [hc, hz, List.sum_append, List.sum_singleton]; exact acc_announce len e1
      have htot : sumSize (s.log ++ [.size len]) + r.sum + lt = files.sum := by
        rw [hz, Nat.add_assoc (sumSize s.log)]; exact e2
      exact ⟨⟨la, lt, hacc, htot, e3⟩, hc.trans hmoved, fun hf => he.trans (herr hf),
        fun hd => (nomatch hw.symm.trans hd), prefixFine_snoc hfine (le_of_acc hacc)⟩
    · exact ⟨⟨la, lt, e1, e2, e3⟩, hmoved, herr, fun _ => ht, hfine⟩
  | walkerFail =>
    obtain ⟨hw, rfl⟩ := step_walkerFail h
    obtain ⟨hc, hz, he⟩ := folds_snoc_error s.log
    have hacc : sumCopied (s.log ++ [.error]) + s.queue.sum + s.active.sum + la = sumSize (s.log ++ [.error]) := by
      rw [hc, hz]; exact e1
    have htot : sumSize (s.log ++ [.error]) + [].sum + (lt + s.todo.sum) = files.sum := by
      rw [hz]; exact tot_drop e2
    exact ⟨⟨la, lt + s.todo.sum, hacc, htot, fun hf => nomatch hf⟩,
      hc.trans hmoved, fun _ => he, fun _ => rfl, prefixFine_snoc hfine (le_of_acc hacc)⟩
  | take =>
    obtain ⟨len, q, hq, rfl⟩ := step_take h
    rw [hq, List.sum_cons] at e1
    have hacc : sumCopied s.log + q.sum + (s.active ++ [len]).sum + la = sumSize s.log := by
      rw [List.sum_append, List.sum_singleton]; exact acc_take e1
    exact ⟨⟨la, lt, hacc, e2, e3⟩, hmoved, herr, hdone, hfine⟩
  | copy i k =>
    obtain ⟨rem, hr, hk0, hk, rfl⟩ := step_copy h
    obtain ⟨hc, hz, he⟩ := folds_snoc_copied s.log k
    have hacc : sumCopied (s.log ++ [.copied k]) + s.queue.sum + (s.active.set i (rem - k)).sum + la =
        sumSize (s.log ++ [.copied k]) := by
      rw [hc, hz]; exact acc_copy e1 (sum_set s.active i (rem - k) rem hr) hk
    exact ⟨⟨la, lt, hacc, hz.symm ▸ e2, e3⟩, (hc.trans (congrArg (· + k) hmoved) :), fun hf => he.trans (herr hf),
      hdone, prefixFine_snoc hfine (le_of_acc hacc)⟩
  | finish i =>
    obtain ⟨hr, rfl⟩ := step_finish h
    have hacc : sumCopied s.log + s.queue.sum + (s.active.eraseIdx i).sum + la = sumSize s.log :=
      acc_drop e1 (sum_eraseIdx s.active i 0 hr)
    exact ⟨⟨la, lt, hacc, e2, e3⟩, hmoved, herr, hdone, hfine⟩
  | fail i =>
    obtain ⟨rem, hr, rfl⟩ := step_fail h
    obtain ⟨hc, hz, he⟩ := folds_snoc_error s.log
    have hacc : sumCopied (s.log ++ [.error]) + s.queue.sum + (s.active.eraseIdx i).sum + (la + rem) =
        sumSize (s.log ++ [.error]) := by
      rw [hc, hz]; exact acc_drop e1 (sum_eraseIdx s.active i rem hr)
    exact ⟨⟨la + rem, lt, hacc, hz.symm ▸ e2, fun hf => nomatch hf⟩, hc.trans hmoved, fun _ => he, hdone,
      prefixFine_snoc hfine (le_of_acc hacc)⟩

theorem inv_reachable {files : List Nat} {s : St} (h : Reachable files s) : Inv files s :=
  Lts.reach_ind (fun _ => rfl) run_cons (Inv files) (inv_init files) (fun _ l _ inv hs => inv_step l inv hs) h

end Xcp.Status
