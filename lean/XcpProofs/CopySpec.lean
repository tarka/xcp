import XcpProofs.Overlay
import XcpProofs.L0Fs
/-! # The static facts about the operations of a tree copy

`opsOf`: each operation is the entry operation `headOp` ("head") of some node of the source tree, there are no
duplicates, and parents are created first (`TodoOK`).  `OpsSpec` states this of one tree's list, with no file system.
`CopySpec` adds a list of target roots `t.T`, each with the tree `t.E` to be laid there, and where the leaves are read
from in the initial state: at places out of the way of all targets; `OpsSpec` is the case of one target read from the
corresponding places below one source (`OpsSpec.copySpec`).  Hence pairwise independence, and specifications for
separated target sets concatenate (`CopySpec.append`, `CopySpec.flatMap`: several sources).
`HeadOK`, `Head0`: what a pending operation may find at its target — what the initial destination had there, which
for a destination `Compatible` with the tree is head-compatible with the tree's node. -/
namespace Xcp

open L0

theorem obsAt_eq_none {r : Node} {q : List Name} : obsAt r q = none ↔ r.getAt q = none := by
  simp [obsAt]

theorem execOps_seqExec (c : Cfg) : ∀ (ops : List Op) (fs f : Fs), execOps fs c ops = ⟨.ok, f⟩ →
    seqExec c (some fs) ops = some f := by
  intro ops
  induction ops with
  | nil => intro fs f h; simp only [execOps, Outcome.mk.injEq, true_and] at h; simp [seqExec, h]
  | cons op r ih =>
    intro fs f h
    simp only [execOps] at h
    rw [seqExec_cons]
    cases hx : execOp fs c op with
    | none => rw [hx] at h; simp at h
    | some g => rw [hx] at h; exact ih g f h

theorem unrel_append {S T : List Name} (h1 : ¬ S <+: T) (h2 : ¬ T <+: S) (a b : List Name) :
    Unrel (S ++ a) (T ++ b) :=
  ((Unrel.ext ⟨h1, h2⟩ a).symm.ext b).symm

/-- the operation the walk emits for the entry itself: `hereOps` (WalkerLemmas) on a node of kind file, link, special
or directory, with source and target spelled by name lists -/
def headOp : Node → List Name → List Name → Op
  | .file _, sn, tn => .copy (plainPath sn) (plainPath tn)
  | .link t, _, tn => .link t (plainPath tn)
  | .special _ _, sn, tn => .special (plainPath sn) (plainPath tn)
  | .dir _, _, tn => .mkdir (plainPath tn)

/-- what that operation writes at the target -/
def stub : Node → Node
  | .dir _ => .dir []
  | n => n

theorem headOp_target (m : Node) (sn tn : List Name) : opTarget (headOp m sn tn) = some (plainPath tn) := by
  cases m <;> rfl

theorem stub_obs (m : Node) : (stub m).obs = m.obs := by cases m <;> rfl

theorem stub_leafLike (m : Node) : LeafLike (stub m) := by
  cases m with
  | dir es => exact leafLike_emptyDir
  | file k => exact leafLike_nondir _ rfl
  | link t => exact leafLike_nondir _ rfl
  | special k d => exact leafLike_nondir _ rfl

theorem headOp_srcOf (m : Node) (sn tn : List Name) (s : RPath) (h : srcOf (headOp m sn tn) = some s) :
    s = plainPath sn ∧ m.isDir = false ∧ m.isLink = false := by
  cases m <;> simp [headOp, srcOf] at h <;> exact ⟨h.symm, rfl, rfl⟩

theorem headOp_isLinkOp (m : Node) (sn tn : List Name) : isLinkOp (headOp m sn tn) = m.isLink := by
  cases m <;> rfl

theorem headOp_isSync (m : Node) (sn tn : List Name) : isSync (headOp m sn tn) = m.isDir := by
  cases m <;> rfl

theorem headOp_mkdir (m : Node) (sn tn : List Name) (t : RPath) (h : headOp m sn tn = .mkdir t) :
    t = plainPath tn ∧ stub m = .dir [] := by
  cases m <;> simp [headOp] at h
  exact ⟨h.symm, rfl⟩

theorem mem_opsOfL {es : List (Name × Node)} {sn tn : List Name} {x : Op} (h : x ∈ opsOfL es sn tn) :
    ∃ e ∈ es, x ∈ opsOf e.2 (sn ++ [e.1]) (tn ++ [e.1]) := by
  rw [opsOfL_eq_flatMap] at h
  exact List.mem_flatMap.1 h

theorem opsOf_leaf {n : Node} (h : n.isDir = false) (sn tn : List Name) : opsOf n sn tn = [headOp n sn tn] := by
  cases n with
  | dir es => cases h
  | _ => rfl

theorem mem_opsOf : ∀ (d : Nat) (n : Node), n.Copyable d → ∀ (sn tn : List Name) (x : Op), x ∈ opsOf n sn tn →
    ∃ rel m, n.getAt rel = some m ∧ rel.length ≤ d ∧ x = headOp m (sn ++ rel) (tn ++ rel) := by
  refine copyable_induction ?_ ?_
  · intro n d hnd _ sn tn x hx
    rw [opsOf_leaf hnd, List.mem_singleton] at hx
    exact ⟨[], n, rfl, Nat.zero_le _, by rw [hx, List.append_nil, List.append_nil]⟩
  · intro es d hnd _ ih sn tn x hx
    simp only [opsOf, List.mem_cons] at hx
    rcases hx with hx | hx
    · exact ⟨[], .dir es, rfl, Nat.zero_le _, by rw [hx, List.append_nil, List.append_nil]; rfl⟩
    · obtain ⟨e, he, hxe⟩ := mem_opsOfL hx
      obtain ⟨rel, m, hg, hl, hxm⟩ := ih e he _ _ x hxe
      refine ⟨e.1 :: rel, m, ?_, Nat.succ_le_succ hl, ?_⟩
      · rw [getAt_dir_cons, entGet_of_mem es hnd e he]; exact hg
      · rw [hxm, List.append_assoc, List.append_assoc]; rfl

mutual
theorem opsOf_target_under : ∀ (n : Node) (sn tn : List Name) (x : Op), x ∈ opsOf n sn tn →
    ∃ t, opTarget x = some (plainPath t) ∧ tn <+: t
  | .dir es, sn, tn, x, hx => by
    simp only [opsOf, List.mem_cons] at hx
    rcases hx with rfl | hx
    · exact ⟨tn, rfl, List.prefix_refl _⟩
    · exact opsOfL_target_under es sn tn x hx
  | .file k, sn, tn, x, hx => by rw [List.mem_singleton.1 hx]; exact ⟨tn, rfl, List.prefix_refl _⟩
  | .link k, sn, tn, x, hx => by rw [List.mem_singleton.1 hx]; exact ⟨tn, rfl, List.prefix_refl _⟩
  | .special k dv, sn, tn, x, hx => by rw [List.mem_singleton.1 hx]; exact ⟨tn, rfl, List.prefix_refl _⟩
theorem opsOfL_target_under : ∀ (es : List (Name × Node)) (sn tn : List Name) (x : Op), x ∈ opsOfL es sn tn →
    ∃ t, opTarget x = some (plainPath t) ∧ tn <+: t
  | [], _, _, _, hx => nomatch hx
  | (m, ch) :: r, sn, tn, x, hx => by
    simp only [opsOfL, List.mem_append] at hx
    rcases hx with hx | hx
    · obtain ⟨t, h1, h2⟩ := opsOf_target_under ch _ _ x hx
      exact ⟨t, h1, (List.prefix_append _ _).trans h2⟩
    · exact opsOfL_target_under r sn tn x hx
end

theorem opsOf_nodup : ∀ (d : Nat) (n : Node), n.Copyable d → ∀ (sn tn : List Name), (opsOf n sn tn).Nodup := by
  refine copyable_induction ?_ ?_
  · intro n d hnd _ sn tn
    rw [opsOf_leaf hnd]
    exact List.nodup_cons.2 ⟨List.not_mem_nil, List.nodup_nil⟩
  · intro es d hnd hch ih sn tn
    simp only [opsOf, List.nodup_cons]
    constructor
    · intro hmem
      obtain ⟨e, he, hxe⟩ := mem_opsOfL hmem
      obtain ⟨t, ht, hpre⟩ := opsOf_target_under _ _ _ _ hxe
      simp only [opTarget, Option.some.injEq] at ht
      have := plainPath_inj ht
      subst this
      have := hpre.length_le
      rw [List.length_append, List.length_singleton] at this
      exact Nat.not_succ_le_self _ this
    · -- the children, with distinct names
      have key : ∀ (l : List (Name × Node)), (l.map (·.1)).Nodup → (∀ e ∈ l, e ∈ es) → (opsOfL l sn tn).Nodup := by
        intro l
        induction l with
        | nil => intro _ _; exact List.nodup_nil
        | cons e r ihl =>
          intro hndl hsub
          obtain ⟨m, ch⟩ := e
          simp only [List.map_cons, List.nodup_cons] at hndl
          simp only [opsOfL]
          rw [List.nodup_append]
          refine ⟨ih _ (hsub _ List.mem_cons_self) _ _, ihl hndl.2 (fun e he => hsub e (List.mem_cons_of_mem _ he)), ?_⟩
          intro a ha b hb hab
          subst hab
          obtain ⟨t1, ht1, hp1⟩ := opsOf_target_under _ _ _ _ ha
          obtain ⟨e', he', hxe'⟩ := mem_opsOfL hb
          obtain ⟨t2, ht2, hp2⟩ := opsOf_target_under _ _ _ _ hxe'
          rw [ht1] at ht2
          have := plainPath_inj (Option.some.inj ht2)
          subst this
          have hlen : (tn ++ [m]).length = (tn ++ [e'.1]).length := by
            rw [List.length_append, List.length_append]; rfl
          have heq : tn ++ [m] = tn ++ [e'.1] := by
            rcases List.prefix_or_prefix_of_prefix hp1 hp2 with h | h
            · exact h.eq_of_length hlen
            · exact (h.eq_of_length hlen.symm).symm
          have hm : m = e'.1 := List.singleton_inj.1 (List.append_cancel_left heq)
          apply hndl.1
          rw [hm]
          exact List.mem_map.2 ⟨e', he', rfl⟩
      exact key es hnd (fun _ h => h)

/-- entry operations of the nodes of one tree, each reading from and writing to its own position, are determined by
their targets -/
theorem headOps_tgt_inj {srcNode : Node} {S T : List Name} {ops : List Op}
    (hchar : ∀ x ∈ ops, ∃ rel m, srcNode.getAt rel = some m ∧ x = headOp m (S ++ rel) (T ++ rel)) :
    ∀ x ∈ ops, ∀ y ∈ ops, opTarget x = opTarget y → x = y := by
  intro x hx y hy heq
  obtain ⟨rx, mx, hgx, ex⟩ := hchar x hx
  obtain ⟨ry, my, hgy, ey⟩ := hchar y hy
  rw [ex, ey, headOp_target, headOp_target] at heq
  have := List.append_cancel_left (plainPath_inj (Option.some.inj heq))
  subst this
  rw [hgx] at hgy
  injection hgy with hgy
  subst hgy
  exact ex.trans ey.symm

theorem opsOf_tgt_nodup (d : Nat) (n : Node) (hc : n.Copyable d) (sn tn : List Name) :
    ((opsOf n sn tn).map opTarget).Nodup := by
  rw [List.Nodup, List.pairwise_map]
  refine List.Pairwise.imp_of_mem ?_ (opsOf_nodup d n hc sn tn)
  intro x y hx hy hxy heq
  refine hxy (headOps_tgt_inj (srcNode := n) (S := sn) (T := tn) (fun x hx => ?_) x hx y hy heq)
  obtain ⟨rel, m, hg, _, ex⟩ := mem_opsOf d n hc sn tn x hx
  exact ⟨rel, m, hg, ex⟩

/-- the static facts about the operations of a copy of `srcNode` from `S` to `T` -/
structure OpsSpec (srcNode : Node) (S T : List Name) (d : Nat) (ops : List Op) : Prop where
  char : ∀ x ∈ ops, ∃ rel m, srcNode.getAt rel = some m ∧ rel.length ≤ d ∧ x = headOp m (S ++ rel) (T ++ rel)
  un1 : ¬ S <+: T
  un2 : ¬ T <+: S
  tne : T ≠ []
  lenS : S.length + d < 256
  lenT : T.length + d < 256

/-- the operations can be walked in this order: the parent directory of each target is in `D`, where `D` grows by
the target of each `mkdir` walked -/
def TodoOK : (List Name → Prop) → List Op → Prop
  | _, [] => True
  | D, x :: r => (∀ t, opTarget x = some t → D t.names.dropLast) ∧
      TodoOK (fun p => D p ∨ ∃ t, x = .mkdir t ∧ p = t.names) r

theorem TodoOK.mono : ∀ (l : List Op) (D D' : List Name → Prop), (∀ p, D p → D' p) → TodoOK D l → TodoOK D' l := by
  intro l
  induction l with
  | nil => intro _ _ _ _; trivial
  | cons x r ih =>
    intro D D' hsub h
    refine ⟨fun t ht => hsub _ (h.1 t ht), ih _ _ ?_ h.2⟩
    intro p hp
    rcases hp with hp | hp
    · exact .inl (hsub p hp)
    · exact .inr hp

mutual
theorem todoOK_opsOf : ∀ (n : Node) (sn tn : List Name) (D : List Name → Prop) (rest : List Op),
    D tn.dropLast → TodoOK D rest → TodoOK D (opsOf n sn tn ++ rest)
  | .dir es, sn, tn, D, rest, hD, hrest => by
    simp only [opsOf, List.cons_append]
    refine ⟨?_, todoOK_opsOfL es sn tn _ rest (.inr ⟨_, rfl, (plainPath_names tn).symm⟩)
      (TodoOK.mono _ _ _ (fun p hp => .inl hp) hrest)⟩
    intro t ht
    simp only [opTarget, Option.some.injEq] at ht
    subst ht
    rw [plainPath_names]; exact hD
  | .file k, sn, tn, D, rest, hD, hrest =>
    ⟨fun t ht => by rw [← Option.some.inj ht, plainPath_names]; exact hD, TodoOK.mono _ _ _ (fun p hp => .inl hp) hrest⟩
  | .link k, sn, tn, D, rest, hD, hrest =>
    ⟨fun t ht => by rw [← Option.some.inj ht, plainPath_names]; exact hD, TodoOK.mono _ _ _ (fun p hp => .inl hp) hrest⟩
  | .special k dv, sn, tn, D, rest, hD, hrest =>
    ⟨fun t ht => by rw [← Option.some.inj ht, plainPath_names]; exact hD, TodoOK.mono _ _ _ (fun p hp => .inl hp) hrest⟩
theorem todoOK_opsOfL : ∀ (es : List (Name × Node)) (sn tn : List Name) (D : List Name → Prop) (rest : List Op),
    D tn → TodoOK D rest → TodoOK D (opsOfL es sn tn ++ rest)
  | [], _, _, _, _, _, hrest => hrest
  | (m, ch) :: r, sn, tn, D, rest, hD, hrest => by
    simp only [opsOfL, List.append_assoc]
    exact todoOK_opsOf ch _ _ D _ (by rw [List.dropLast_concat]; exact hD) (todoOK_opsOfL r sn tn D rest hD hrest)
end

theorem parentDir_child {r : Node} {dn : List Name} (b : Name) (h : ∃ es, r.getAt dn = some (.dir es)) :
    ParentDir r (dn ++ [b]) := by
  rw [ParentDir, List.dropLast_concat]
  exact h

/-- the directories of a state, as the set `D` of `TodoOK` -/
def DirsOf (g : Fs) : List Name → Prop := fun p => ∃ es, g.root.getAt p = some (.dir es)

/-- a target root and the tree to be laid there -/
structure Tgt where
  T : List Name
  E : Node

/-- `q` is neither at/below nor above any target root: nothing a copy to `ts` writes or creates is at `q` -/
def Away (ts : List Tgt) (q : List Name) : Prop := ∀ t ∈ ts, Unrel q t.T

/-- `fs0` is the initial state, `d` the depth bound, `cp` the place an operation reads from (copy and special operations
only: the clause asks nothing of a `mkdir` or a link operation) -/
structure CopySpec (fs0 : Fs) (ts : List Tgt) (d : Nat) (ops : List Op) : Prop where
  char : ∀ x ∈ ops, ∃ t ∈ ts, ∃ rel m cp, t.E.getAt rel = some m ∧ rel.length ≤ d ∧ x = headOp m cp (t.T ++ rel) ∧
    (m.isDir = false → m.isLink = false → fs0.root.getAt cp = some m ∧ cp.length ≤ 256 ∧ Away ts cp)
  tnd : (ops.map opTarget).Nodup
  sep : ∀ t ∈ ts, ∀ u ∈ ts, t = u ∨ Unrel t.T u.T
  tne : ∀ t ∈ ts, t.T ≠ []
  lenT : ∀ t ∈ ts, t.T.length + d < 256

variable {fs0 : Fs} {ts : List Tgt} {d : Nat} {ops : List Op}

theorem tgt_inj (hsep : ∀ t ∈ ts, ∀ u ∈ ts, t = u ∨ Unrel t.T u.T) {t u : Tgt} (ht : t ∈ ts)
    (hu : u ∈ ts) {rel rel' : List Name} (heq : t.T ++ rel = u.T ++ rel') : t = u ∧ rel = rel' := by
  rcases hsep t ht u hu with h | h
  · subst h
    exact ⟨rfl, List.append_cancel_left heq⟩
  · exact absurd (heq ▸ List.prefix_refl _) (unrel_append h.1 h.2 rel rel').1

theorem CopySpec.nodup (h : CopySpec fs0 ts d ops) : ops.Nodup :=
  List.Pairwise.of_map opTarget (fun _ _ hab e => hab (congrArg opTarget e)) h.tnd

theorem CopySpec.tgt_ne (h : CopySpec fs0 ts d ops) {x y : Op} (hx : x ∈ ops) (hy : y ∈ ops) (hxy : x ≠ y)
    {tn : List Name} (hxt : opTarget x = some (plainPath tn)) {t : RPath} (ht : opTarget y = some t) :
    t.names ≠ tn := by
  obtain ⟨_, _, ry, my, cy, _, _, ey, _⟩ := h.char y hy
  have ht' := ht
  rw [ey, headOp_target] at ht'
  have := Option.some.inj ht'
  subst this
  rw [plainPath_names]
  intro heq
  apply hxy
  apply nodup_map_inj opTarget h.tnd hx hy
  rw [ht, hxt, heq]

theorem pairIndep_of_heads (hsep : ∀ t ∈ ts, ∀ u ∈ ts, t = u ∨ Unrel t.T u.T)
    (hchar : ∀ x ∈ ops, ∃ t ∈ ts, ∃ rel m cp, t.E.getAt rel = some m ∧ x = headOp m cp (t.T ++ rel) ∧
      (m.isDir = false → m.isLink = false → Away ts cp))
    (hinj : ∀ x ∈ ops, ∀ y ∈ ops, opTarget x = opTarget y → x = y) : PairIndep ops := by
  intro x hx y hy hxy hsx
  obtain ⟨t, ht, rx, mx, cx, hgx, ex, hlx⟩ := hchar x hx
  obtain ⟨u, hu, ry, my, cy, hgy, ey, hly⟩ := hchar y hy
  right
  refine ⟨plainPath (t.T ++ rx), plainPath (u.T ++ ry), by rw [ex, headOp_target], by rw [ey, headOp_target],
    plainPath_namesOnly _, plainPath_namesOnly _, ?_, ?_, ?_⟩
  · simp only [plainPath_names]
    rcases hsep t ht u hu with htu | htu
    · subst htu
      have hmx : mx.isDir = false := by rw [ex, headOp_isSync] at hsx; exact hsx
      rcases prefix_cases rx ry with ⟨s, hs⟩ | ⟨h1, h2⟩ | ⟨h1, h2⟩
      · -- `ry` at or below `rx`: `mx` is a leaf, so `ry = rx`, so `x = y`
        subst hs
        by_cases hs0 : s = []
        · subst hs0
          rw [List.append_nil] at ey
          exact absurd (hinj x hx y hy (by rw [ex, ey, headOp_target, headOp_target])) hxy
        · obtain ⟨es, hes⟩ := getAt_append_dir hgy hs0
          rw [hgx] at hes
          injection hes with hes
          subst hes
          cases hmx
      · -- `ry` strictly above `rx`: `y` creates an ancestor directory
        right
        obtain ⟨s, hs⟩ := h1
        subst hs
        have hs0 : s ≠ [] := fun h0 => h2 (by rw [h0, List.append_nil])
        obtain ⟨es, hes⟩ := getAt_append_dir hgx hs0
        rw [hgy] at hes
        injection hes with hes
        subst hes
        refine ⟨⟨_, ey⟩, ?_, ?_⟩
        · rw [← List.append_assoc]; exact List.prefix_append _ _
        · intro heq
          have := List.append_cancel_left heq
          exact h2 this
      · left
        exact ⟨fun hh => h1 ((List.prefix_append_right_inj t.T).1 hh),
          fun hh => h2 ((List.prefix_append_right_inj t.T).1 hh)⟩
    · left
      exact unrel_append htu.1 htu.2 rx ry
  · intro s hs
    rw [ex] at hs
    obtain ⟨e, hmd, hml⟩ := headOp_srcOf _ _ _ _ hs
    subst e
    simp only [plainPath_names]
    exact ⟨plainPath_namesOnly _, (hlx hmd hml u hu).append_right ry⟩
  · intro s hs
    rw [ey] at hs
    obtain ⟨e, hmd, hml⟩ := headOp_srcOf _ _ _ _ hs
    subst e
    simp only [plainPath_names]
    exact ⟨plainPath_namesOnly _, (hly hmd hml t ht).append_right rx⟩

theorem CopySpec.pairIndep (h : CopySpec fs0 ts d ops) : PairIndep ops := by
  refine pairIndep_of_heads h.sep ?_ (fun x hx y hy => nodup_map_inj opTarget h.tnd hx hy)
  intro x hx
  obtain ⟨t, ht, rel, m, cp, hg, _, ex, hlf⟩ := h.char x hx
  exact ⟨t, ht, rel, m, cp, hg, ex, fun h1 h2 => (hlf h1 h2).2.2⟩

theorem headOp_srcOf_leaf {m : Node} (hd : m.isDir = false) (hl : m.isLink = false) (cp tn : List Name) :
    srcOf (headOp m cp tn) = some (plainPath cp) := by
  cases m <;> simp [Node.isDir, Node.isLink] at hd hl <;> rfl

theorem CopySpec.append {fs0 : Fs} {ts1 ts2 : List Tgt} {d : Nat} {ops1 ops2 : List Op}
    (h1 : CopySpec fs0 ts1 d ops1) (h2 : CopySpec fs0 ts2 d ops2)
    (hsep : ∀ t ∈ ts1, ∀ u ∈ ts2, Unrel t.T u.T)
    (hr1 : ∀ x ∈ ops1, ∀ s, srcOf x = some s → Away ts2 s.names)
    (hr2 : ∀ x ∈ ops2, ∀ s, srcOf x = some s → Away ts1 s.names) :
    CopySpec fs0 (ts1 ++ ts2) d (ops1 ++ ops2) where
  char := by
    intro x hx
    rcases List.mem_append.1 hx with hx | hx
    · obtain ⟨t, ht, rel, m, cp, hg, hl, ex, hlf⟩ := h1.char x hx
      refine ⟨t, List.mem_append_left _ ht, rel, m, cp, hg, hl, ex, fun hmd hml => ?_⟩
      refine ⟨(hlf hmd hml).1, (hlf hmd hml).2.1, fun u hu => ?_⟩
      rcases List.mem_append.1 hu with hu | hu
      · exact (hlf hmd hml).2.2 u hu
      · have := hr1 x hx (plainPath cp) (by rw [ex, headOp_srcOf_leaf hmd hml]) u hu
        rwa [plainPath_names] at this
    · obtain ⟨t, ht, rel, m, cp, hg, hl, ex, hlf⟩ := h2.char x hx
      refine ⟨t, List.mem_append_right _ ht, rel, m, cp, hg, hl, ex, fun hmd hml => ?_⟩
      refine ⟨(hlf hmd hml).1, (hlf hmd hml).2.1, fun u hu => ?_⟩
      rcases List.mem_append.1 hu with hu | hu
      · have := hr2 x hx (plainPath cp) (by rw [ex, headOp_srcOf_leaf hmd hml]) u hu
        rwa [plainPath_names] at this
      · exact (hlf hmd hml).2.2 u hu
  tnd := by
    rw [List.map_append, List.nodup_append]
    refine ⟨h1.tnd, h2.tnd, ?_⟩
    intro a ha b hb hab
    subst hab
    obtain ⟨x, hx, hxa⟩ := List.mem_map.1 ha
    obtain ⟨y, hy, hya⟩ := List.mem_map.1 hb
    obtain ⟨t, ht, rx, _, _, _, _, ex, _⟩ := h1.char x hx
    obtain ⟨u, hu, ry, _, _, _, _, ey, _⟩ := h2.char y hy
    rw [ex, headOp_target] at hxa
    rw [ey, headOp_target, ← hxa] at hya
    have heq := plainPath_inj (Option.some.inj hya)
    exact (unrel_append (hsep t ht u hu).1 (hsep t ht u hu).2 rx ry).2 (heq ▸ List.prefix_refl _)
  sep := by
    intro t ht u hu
    rcases List.mem_append.1 ht with ht | ht <;> rcases List.mem_append.1 hu with hu | hu
    · exact h1.sep t ht u hu
    · exact .inr (hsep t ht u hu)
    · exact .inr ⟨(hsep u hu t ht).2, (hsep u hu t ht).1⟩
    · exact h2.sep t ht u hu
  tne := fun t ht => (List.mem_append.1 ht).elim (h1.tne t) (h2.tne t)
  lenT := fun t ht => (List.mem_append.1 ht).elim (h1.lenT t) (h2.lenT t)

theorem CopySpec.flatMap {α : Type} {fs0 : Fs} {d : Nat} (f : α → Tgt) (g : α → List Op) :
    ∀ items : List α, (∀ a ∈ items, CopySpec fs0 [f a] d (g a)) →
      items.Pairwise (fun a b => Unrel (f a).T (f b).T) →
      (∀ a ∈ items, ∀ x ∈ g a, ∀ s, srcOf x = some s → ∀ b ∈ items, Unrel s.names (f b).T) →
      CopySpec fs0 (items.map f) d (items.flatMap g) := by
  intro items
  induction items with
  | nil =>
    intro _ _ _
    exact ⟨fun _ hx => (nomatch hx), List.nodup_nil, fun _ ht => (nomatch ht), fun _ ht => (nomatch ht),
      fun _ ht => (nomatch ht)⟩
  | cons a r ih =>
    intro hs hp hr
    rw [List.pairwise_cons] at hp
    have hr' := ih (fun b hb => hs b (List.mem_cons_of_mem _ hb)) hp.2
      (fun b hb x hx s hsx e he => hr b (List.mem_cons_of_mem _ hb) x hx s hsx e (List.mem_cons_of_mem _ he))
    refine (hs a List.mem_cons_self).append hr' ?_ ?_ ?_
    · intro t ht u hu
      obtain ⟨b, hb, rfl⟩ := List.mem_map.1 hu
      rw [List.mem_singleton.1 ht]
      exact hp.1 b hb
    · intro x hx s hsx u hu
      obtain ⟨b, hb, rfl⟩ := List.mem_map.1 hu
      exact hr a List.mem_cons_self x hx s hsx b (List.mem_cons_of_mem _ hb)
    · intro x hx s hsx u hu
      obtain ⟨b, hb, hxb⟩ := List.mem_flatMap.1 hx
      rw [List.mem_singleton.1 hu]
      exact hr b (List.mem_cons_of_mem _ hb) x hxb s hsx a List.mem_cons_self

theorem OpsSpec.pairIndep {srcNode : Node} {S T : List Name} {d : Nat} {ops : List Op}
    (h : OpsSpec srcNode S T d ops) : PairIndep ops := by
  refine pairIndep_of_heads (ts := [⟨T, srcNode⟩])
    (fun t ht u hu => .inl ((List.mem_singleton.1 ht).trans (List.mem_singleton.1 hu).symm)) ?_
    (headOps_tgt_inj (srcNode := srcNode) (S := S) (T := T) fun x hx => ?_)
  · intro x hx
    obtain ⟨rel, m, hg, _, ex⟩ := h.char x hx
    exact ⟨_, List.mem_singleton_self _, rel, m, S ++ rel, hg, ex, fun _ _ =>
      List.forall_mem_singleton.2 (Unrel.ext ⟨h.un1, h.un2⟩ rel)⟩
  · obtain ⟨rel, m, hg, _, ex⟩ := h.char x hx
    exact ⟨rel, m, hg, ex⟩

/-- `E` need not be the tree at `S`: it is enough that the initial state holds every leaf of `E` below `S` (so for `E`
what `--gitignore` patterns leave of the tree at `S`) -/
theorem OpsSpec.copySpec {fs0 : Fs} {E : Node} {S T : List Name} {d : Nat} {ops : List Op} (h : OpsSpec E S T d ops)
    (hnd : ops.Nodup)
    (hsrc : ∀ rel m, E.getAt rel = some m → m.isDir = false → m.isLink = false → fs0.root.getAt (S ++ rel) = some m) :
    CopySpec fs0 [⟨T, E⟩] d ops where
  char := by
    intro x hx
    obtain ⟨rel, m, hg, hl, ex⟩ := h.char x hx
    refine ⟨_, List.mem_singleton_self _, rel, m, S ++ rel, hg, hl, ex, fun hmd hml => ⟨hsrc rel m hg hmd hml, ?_, ?_⟩⟩
    · rw [List.length_append]
      exact Nat.le_of_lt (Nat.lt_of_le_of_lt (Nat.add_le_add_left hl _) h.lenS)
    · exact List.forall_mem_singleton.2 (Unrel.ext ⟨h.un1, h.un2⟩ rel)
  tnd := by
    rw [List.Nodup, List.pairwise_map]
    refine List.Pairwise.imp_of_mem ?_ hnd
    intro x y hx hy hxy heq
    refine hxy (headOps_tgt_inj (srcNode := E) (S := S) (T := T) (fun x hx => ?_) x hx y hy heq)
    obtain ⟨rel, m, hg, _, ex⟩ := h.char x hx
    exact ⟨rel, m, hg, ex⟩
  sep := fun t ht u hu => .inl ((List.mem_singleton.1 ht).trans (List.mem_singleton.1 hu).symm)
  tne := fun t ht => by rw [List.mem_singleton.1 ht]; exact h.tne
  lenT := fun t ht => by rw [List.mem_singleton.1 ht]; exact h.lenT

theorem copySpec_opsOf {fs0 : Fs} {n E : Node} {S T : List Name} {d : Nat} (hsn : fs0.root.getAt S = some n)
    (hcop : E.Copyable d)
    (hsub : ∀ rel m, E.getAt rel = some m → m.isDir = false → m.isLink = false → n.getAt rel = some m)
    (hun : Unrel S T) (hne : T ≠ []) (hlS : S.length + d < 256) (hlT : T.length + d < 256)
    (hpar : ParentDir fs0.root T) :
    CopySpec fs0 [⟨T, E⟩] d (opsOf E S T) ∧ TodoOK (DirsOf fs0) (opsOf E S T) := by
  have hspec : OpsSpec E S T d (opsOf E S T) := ⟨mem_opsOf d E hcop S T, hun.1, hun.2, hne, hlS, hlT⟩
  have htodo := todoOK_opsOf E S T (DirsOf fs0) [] hpar trivial
  rw [List.append_nil] at htodo
  refine ⟨hspec.copySpec (opsOf_nodup d E hcop S T) ?_, htodo⟩
  intro rel m hg hmd hml
  rw [Node.getAt_append, hsn]
  exact hsub rel m hg hmd hml

/-- what an operation for the source node `m` may find at its target: nothing; a regular file (file and special
operations); a special file (special operation); a directory (`mkdir`).  Never a symbolic link. -/
def HeadOK : Option ONode → Node → Prop
  | none, _ => True
  | some (.file _), .file _ => True
  | some (.file _), .special _ _ => True
  | some (.special _ _), .special _ _ => True
  | some .dir, .dir _ => True
  | _, _ => False

theorem headOK_none (m : Node) : HeadOK none m := by
  cases m <;> simp [HeadOK]

theorem headOK_link_false {tg : RPath} {n : Node} (h : HeadOK (some (.link tg)) n) : False := by
  cases n <;> simp [HeadOK] at h

theorem headOK_dir_isDir {n : Node} (h : HeadOK (some .dir) n) : n.obs = .dir := by
  cases n <;> simp [HeadOK] at h
  rfl

theorem headOK_of_compatible : ∀ (rel : List Name) (dst : Option Node) (n m : Node), Compatible dst n →
    n.getAt rel = some m → HeadOK ((dst.bind fun x => x.getAt rel).map Node.obs) m := by
  intro rel
  induction rel with
  | nil =>
    intro dst n m hc hg
    simp only [getAt_nil, Option.some.injEq] at hg
    subst hg
    cases dst with
    | none => exact headOK_none _
    | some x =>
      cases x <;> cases n <;> simp [Compatible, Node.compatible] at hc <;> simp [HeadOK, Node.obs]
  | cons a rel' ih =>
    intro dst n m hc hg
    obtain ⟨es, ch, hn, hch, hm⟩ := Node.getAt_cons_some hg
    subst hn
    cases dst with
    | none => exact headOK_none _
    | some x =>
      cases x with
      | dir des =>
        simp only [Compatible, Node.compatible] at hc
        have hcc := compatibleL_mem hc (a, ch) (entGet_mem hch)
        have := ih (entGet des a) ch m hcc hm
        simpa only [Option.bind_some, getAt_dir_cons] using this
      | file k => simp [Compatible, Node.compatible] at hc
      | link t => simp [Compatible, Node.compatible] at hc
      | special k d => simp [Compatible, Node.compatible] at hc

theorem obs_below_none {r : Node} {ns : List Name} {x : Node} (hx : r.getAt ns = some x) (hl : LeafLike x) :
    ∀ s, s ≠ [] → obsAt r (ns ++ s) = none := by
  intro s hs
  simp [obsAt, Node.getAt_append, hx, hl s hs]

theorem frame_of_replacedAt {r r1 : Node} {ns : List Name} {w : ONode} (R : ReplacedAt r r1 ns w)
    (hb : ∀ s, s ≠ [] → obsAt r (ns ++ s) = none) : ∀ t', t' ≠ ns → obsAt r1 t' = obsAt r t' := by
  intro t' hne
  by_cases hp : ns <+: t'
  · obtain ⟨s, hs⟩ := hp
    subst hs
    have hs0 : s ≠ [] := fun h0 => hne (by rw [h0, List.append_nil])
    rw [R.below s hs0, hb s hs0]
  · exact R.out t' hp

/-- the initial destination is head-compatible with the source tree, position by position -/
def Head0 (fs0 : Fs) (srcNode : Node) (T : List Name) : Prop :=
  ∀ rel m, srcNode.getAt rel = some m → HeadOK (obsAt fs0.root (T ++ rel)) m

theorem head0_of_compatible {fs0 : Fs} {E : Node} {T : List Name} (hc : Compatible (fs0.root.getAt T) E) :
    Head0 fs0 E T := by
  intro rel m hg
  have := headOK_of_compatible rel (fs0.root.getAt T) E m hc hg
  unfold obsAt
  rw [Node.getAt_append]
  exact this

theorem head0_of_absent {fs0 : Fs} {E : Node} {T : List Name} (habs : fs0.root.getAt T = none) : Head0 fs0 E T :=
  head0_of_compatible (by rw [habs]; exact compatible_none E)

end Xcp
