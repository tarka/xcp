import XcpModel.Pool
import XcpProofs.PoolFInv
import XcpProofs.PoolLog
/-! Invariants of the parblock dispatcher/pool model, for every reachable state (every schedule).
`Xcp.Pool` is `Xcp.PoolF` without the two failure labels: `emb` maps a state to the state of `PoolF` with the same
components and `aborted = false`, a step of `Pool` is the step of `PoolF` with the same label (`emb_step`), so
reachable states are mapped to reachable states and whatever `XcpProofs/PoolFInv.lean` proves of those holds here.
What is true only without failures is proved on `Pool.step`: the shape of the log (`DriverLog`) and completeness
(`WInv`: every block of every opened file is at exactly one place). -/
namespace Xcp.Pool

/-- steps still to be taken: each file of `b` blocks needs 1 open + b pushes + 1 drop + b takes + 3b job moves -/
def measure (s : St) : Nat :=
  (s.files.map fun b => 5 * b + 2).sum
  + (match s.cur with | some (_, _, left) => 5 * left + 1 | none => 0)
  + 4 * s.queue.length
  + (s.running.map fun jp => match jp.2 with | .copying => 3 | .written => 2 | .reported => 1).sum

/-- `Pool.release` and `Pool.step` are definitions of their own: their equations are stated here as
`XcpProofs/PoolFInv.lean` states those of `PoolF` -/
theorem release_eq (s : St) (h : Hid) :
    release s h = { s with refs := fun x => if x = h then s.refs h - 1 else s.refs x,
                           isOpen := fun x => if x = h ∧ s.refs h - 1 = 0 then false else s.isOpen x,
                           log := s.log ++ if s.refs h - 1 = 0 then dropLog s.fsyncOn h else [] } := by
  by_cases hr : s.refs h - 1 = 0 <;> simp [release, hr, dropLog]

theorem step_openNext {s s' : St} (h : step s .openNext = some s') :
    ∃ b fs, s.cur = none ∧ s.files = b :: fs ∧
      s' = { s with files := fs, cur := some (s.next, 0, b), next := s.next + 1,
                    refs := fun x => if x = s.next then 1 else s.refs x,
                    isOpen := fun x => if x = s.next then true else s.isOpen x,
                    log := s.log ++ [.opened s.next] } := by
  simp only [step] at h
  split at h
  · next b fs hc hf => exact ⟨b, fs, hc, hf, by simpa using h.symm⟩
  · simp at h

theorem step_push {s s' : St} (h : step s .push = some s') :
    ∃ hd q b, s.cur = some (hd, q, b+1) ∧ s.queue.length < s.cap ∧
      s' = { s with cur := some (hd, q+1, b), queue := s.queue ++ [⟨hd, q⟩],
                    refs := fun x => if x = hd then s.refs x + 1 else s.refs x } := by
  simp only [step] at h
  split at h
  · next hd q b hc =>
    split at h
    · next hq => exact ⟨hd, q, b, hc, hq, by simpa using h.symm⟩
    · simp at h
  · simp at h

theorem step_dropOwn {s s' : St} (h : step s .dropOwn = some s') :
    ∃ hd q, s.cur = some (hd, q, 0) ∧ s' = release { s with cur := none } hd := by
  simp only [step] at h
  split at h
  · next hd q hc => exact ⟨hd, q, hc, by simpa using h.symm⟩
  · simp at h

theorem step_take {s s' : St} (h : step s .take = some s') :
    ∃ j q, s.queue = j :: q ∧ s.running.length < s.workers ∧
      s' = { s with queue := q, running := s.running ++ [(j, .copying)] } := by
  simp only [step] at h
  split at h
  · next j q hq =>
    split at h
    · next hr => exact ⟨j, q, hq, hr, by simpa using h.symm⟩
    · simp at h
  · simp at h

theorem step_stepJob {s s' : St} {i : Nat} (h : step s (.stepJob i) = some s') :
    (∃ j, s.running[i]? = some (j, .copying) ∧
      s' = { s with running := s.running.set i (j, .written), log := s.log ++ [.write j.h j.blk] }) ∨
    (∃ j, s.running[i]? = some (j, .written) ∧
      s' = { s with running := s.running.set i (j, .reported), log := s.log ++ [.copied j.h j.blk] }) ∨
    (∃ j, s.running[i]? = some (j, .reported) ∧
      s' = release { s with running := s.running.eraseIdx i } j.h) := by
  simp only [step] at h
  split at h
  · next j hr => exact .inl ⟨j, hr, by simpa using h.symm⟩
  · next j hr => exact .inr (.inl ⟨j, hr, by simpa using h.symm⟩)
  · next j hr => exact .inr (.inr ⟨j, hr, by simpa using h.symm⟩)
  · simp at h

theorem run_cons (s : St) (l : Label) (ls : List Label) : run s (l :: ls) = (step s l).bind (run · ls) := by
  simp only [run]
  cases step s l <;> rfl

/-- an event of `Pool` as the event of `PoolF` with the same constructor; likewise jobs, phases and labels below -/
def embE : Event → PoolF.Event
  | .opened h => .opened h
  | .write h b => .write h b
  | .copied h b => .copied h b
  | .finalise h => .finalise h
  | .fsync h => .fsync h
  | .closed h => .closed h

def embJ (j : Job) : PoolF.Job := ⟨j.h, j.blk⟩

def embP : Phase → PoolF.Phase
  | .copying => .copying
  | .written => .written
  | .reported => .reported

def embL : Label → PoolF.Label
  | .openNext => .openNext
  | .push => .push
  | .dropOwn => .dropOwn
  | .take => .take
  | .stepJob i => .stepJob i

/-- the state of `PoolF` with the same components and the dispatcher not aborted -/
def emb (s : St) : PoolF.St :=
  { files := s.files, cur := s.cur, queue := s.queue.map embJ,
    running := s.running.map fun jp => (embJ jp.1, embP jp.2),
    refs := s.refs, isOpen := s.isOpen, next := s.next, cap := s.cap, workers := s.workers, fsyncOn := s.fsyncOn,
    log := s.log.map embE, aborted := false }

theorem embL_fails (l : Label) : (embL l).fails = false := by
  cases l <;> rfl

theorem embL_surj {l : PoolF.Label} (hl : l.fails = false) : ∃ l', embL l' = l := by
  cases l with
  | openNext => exact ⟨.openNext, rfl⟩
  | push => exact ⟨.push, rfl⟩
  | dropOwn => exact ⟨.dropOwn, rfl⟩
  | take => exact ⟨.take, rfl⟩
  | stepJob i => exact ⟨.stepJob i, rfl⟩
  | failJob i => cases hl
  | abort => cases hl

theorem emb_release (s : St) (h : Hid) : PoolF.release (emb s) h = emb (release s h) := by
  unfold release PoolF.release
  by_cases hr : s.refs h - 1 = 0
  · cases hf : s.fsyncOn <;> simp [emb, hr, hf, embE]
  · simp [emb, hr]

/-- label by label the two `step`s are the same `match`; what is left to rewrite is `map` over the grown queue, pool
or log, and `emb_release` where a clone is dropped -/
theorem emb_step (s : St) (l : Label) : PoolF.step (emb s) (embL l) = (step s l).map emb := by
  obtain ⟨files, cur, queue, running, refs, isOpen, next, cap, workers, fs, log⟩ := s
  cases l with
  | openNext =>
    rcases cur with _ | c <;> rcases files with _ | ⟨b, fs⟩ <;> try rfl
    simp only [step, PoolF.step, emb, embL, embE, List.map_append, List.map_cons, List.map_nil, Option.map_some]
    rfl
  | push =>
    rcases cur with _ | ⟨h, q, _ | b⟩ <;> try rfl
    simp only [step, PoolF.step, emb, embL, List.length_map]
    split
    · simp only [Option.map_some, emb, List.map_append, List.map_cons, List.map_nil, embJ]
    · rfl
  | dropOwn =>
    rcases cur with _ | ⟨h, q, _ | b⟩ <;> try rfl
    exact congrArg some (emb_release ⟨files, none, queue, running, refs, isOpen, next, cap, workers, fs, log⟩ h)
  | take =>
    rcases queue with _ | ⟨j, q⟩
    · rfl
    · simp only [step, PoolF.step, emb, embL, List.map_cons, List.length_map]
      split
      · simp only [Option.map_some, emb, List.map_append, List.map_cons, List.map_nil, embP]
      · rfl
  | stepJob i =>
    simp only [step, PoolF.step, emb, embL, List.getElem?_map]
    rcases running[i]? with _ | ⟨j, p⟩
    · rfl
    · cases p
      · simp only [Option.map_some, emb, embP, embE, embJ, List.map_set, List.map_append, List.map_cons, List.map_nil]
      · simp only [Option.map_some, emb, embP, embE, embJ, List.map_set, List.map_append, List.map_cons, List.map_nil]
      · simp only [Option.map_some, embP, ← map_eraseIdx]
        exact congrArg some
          (emb_release ⟨files, cur, queue, running.eraseIdx i, refs, isOpen, next, cap, workers, fs, log⟩ j.h)
theorem emb_run (s : St) (ls : List Label) : PoolF.run (emb s) (ls.map embL) = (run s ls).map emb := by
  induction ls generalizing s with
  | nil => rfl
  | cons l ls ih =>
    simp only [List.map_cons, PoolF.run, run, emb_step]
    cases step s l <;> simp [ih]

theorem emb_reachable {files : List Nat} {cap workers : Nat} {fs : Bool} {s : St}
    (h : Reachable files cap workers fs s) : PoolF.Reachable files cap workers fs (emb s) := by
  obtain ⟨ls, hl⟩ := h
  refine ⟨ls.map embL, ?_⟩
  rw [show PoolF.init files cap workers fs = emb (init files cap workers fs) from rfl, emb_run, hl]
  rfl

theorem step_params (s s' : St) (l : Label) (h : step s l = some s') :
    s'.cap = s.cap ∧ s'.workers = s.workers ∧ s'.fsyncOn = s.fsyncOn :=
  PoolF.step_params (emb s) (emb s') (embL l) (by rw [emb_step, h]; rfl)

theorem emb_measure (s : St) : PoolF.measure (emb s) = measure s + 1 := by
  simp only [PoolF.measure, measure, emb, List.length_map, List.map_map]
  refine congrArg (_ + · + 1) (congrArg List.sum (List.map_congr_left ?_))
  rintro ⟨j, p⟩ _
  cases p <;> rfl

/-- every step consumes exactly one unit: every schedule terminates, after exactly `measure init` steps -/
theorem step_measure_exact (s s' : St) (l : Label) (h : step s l = some s') : measure s' + 1 = measure s := by
  have := PoolF.step_measure_exact (emb s) (emb s') (embL l) (by rw [emb_step, h]; rfl) (embL_fails l)
  rw [emb_measure, emb_measure] at this
  exact Nat.add_right_cancel this

theorem run_measure (s s' : St) (ls : List Label) (h : run s ls = some s') : measure s' + ls.length = measure s :=
  Lts.run_len_eq (fun _ => rfl) run_cons measure step_measure_exact ls s s' h

theorem mem_candidates_of_emb {s : St} {l : Label} (h : embL l ∈ PoolF.candidates (emb s)) : l ∈ candidates s := by
  cases l <;> simp [candidates]
  simpa [PoolF.candidates, embL, emb] using h

/-- no deadlock: with at least one worker and a queue of at least one slot, some label is enabled in every
non-final state -/
theorem no_deadlock (s : St) (hw : 0 < s.workers) (hc : 0 < s.cap) (hf : final s = false) : enabled s ≠ [] := by
  obtain ⟨l, hl, hm, hs⟩ := PoolF.progress (emb s) hw hc (by simpa [PoolF.final, final, emb] using hf)
  obtain ⟨l, rfl⟩ := embL_surj hl
  rw [emb_step, Option.isSome_map] at hs
  exact List.ne_nil_of_mem (List.mem_filter.mpr ⟨mem_candidates_of_emb hm, hs⟩)

theorem params_reachable {files : List Nat} {cap workers : Nat} {fs : Bool} {s : St}
    (h : Reachable files cap workers fs s) : s.cap = cap ∧ s.workers = workers ∧ s.fsyncOn = fs :=
  PoolF.params_reachable (emb_reachable h)

/-- the number of open handles is bounded by the queue capacity, the worker count and the dispatcher's
own handle — independent of the number of files -/
theorem open_bound (files : List Nat) (cap workers : Nat) (fs : Bool) (s : St)
    (h : Reachable files cap workers fs s) : openCount s ≤ cap + workers + 1 :=
  PoolF.open_bound files cap workers fs (emb s) (emb_reachable h)

/-- in every reachable log no write of a handle follows its finalisation or its fsync -/
theorem writes_before_finalise (files : List Nat) (cap workers : Nat) (fs : Bool) (s : St)
    (h : Reachable files cap workers fs s) : writesBeforeFinalise s.log = true := by
  have := (PoolF.linv_reachable (emb_reachable h)).2.mon
  rw [show (emb s).log = s.log.map embE from rfl, mon_map] at this
  rw [wbf_iff]
  have e1 : PoolF.finHid ∘ embE = finHid := funext fun e => by cases e <;> rfl
  have e2 : PoolF.wrHid ∘ embE = wrHid := funext fun e => by cases e <;> rfl
  rwa [e1, e2] at this

theorem closed_of_final (files : List Nat) (cap workers : Nat) (fs : Bool) (s : St)
    (h : Reachable files cap workers fs s) (hf : final s = true) : ∀ hd, hd < s.next → .closed hd ∈ s.log := by
  intro hd hlt
  have := PoolF.closed_of_final files cap workers fs (emb s) (emb_reachable h)
    (by simpa [final, PoolF.final, emb] using hf) hd hlt
  obtain ⟨e, he, heq⟩ := List.mem_map.mp this
  cases e <;> cases heq
  exact he

theorem driverLog_release {fs : Bool} {t : St} (hfs : t.fsyncOn = fs) (hl : DriverLog fs t.log) (hd : Hid) :
    DriverLog fs (release t hd).log := by
  rw [release_eq]
  show DriverLog fs (t.log ++ if t.refs hd - 1 = 0 then dropLog t.fsyncOn hd else [])
  split
  · exact hfs ▸ hl.drop hd
  · rwa [List.append_nil]

theorem driverLog_reachable {files : List Nat} {cap workers : Nat} {fs : Bool} {s : St}
    (h : Reachable files cap workers fs s) : DriverLog fs s.log := by
  refine (Lts.reach_ind (fun _ => rfl) run_cons (fun s => s.fsyncOn = fs ∧ DriverLog fs s.log) ⟨rfl, .nil⟩ ?_ h).2
  rintro s l s' ⟨hfs, hl⟩ hs
  refine ⟨(step_params s s' l hs).2.2.trans hfs, ?_⟩
  cases l with
  | openNext => obtain ⟨b, fs', hc, hf, rfl⟩ := step_openNext hs; exact hl.plain rfl
  | push => obtain ⟨hd, q, b, hc, hq, rfl⟩ := step_push hs; exact hl
  | dropOwn =>
    obtain ⟨hd, q, hc, rfl⟩ := step_dropOwn hs
    exact driverLog_release (t := { s with cur := none }) hfs hl hd
  | take => obtain ⟨j, q, hq, hr, rfl⟩ := step_take hs; exact hl
  | stepJob i =>
    obtain ⟨j, hr, rfl⟩ | ⟨j, hr, rfl⟩ | ⟨j, hr, rfl⟩ := step_stepJob hs
    · exact hl.plain rfl
    · exact hl.plain rfl
    · exact driverLog_release (t := { s with running := s.running.eraseIdx i }) hfs hl j.h

/-- 1 if block `blk` of `h` is still to be queued by the dispatcher -/
def curPend (c : Option (Hid × Nat × Nat)) (h : Hid) (blk : Nat) : Nat :=
  match c with
  | some (h', q, left) => if h' = h ∧ q ≤ blk ∧ blk < q + left then 1 else 0
  | none => 0

/-- block count of the `h`-th file given (0 beyond the end) -/
def nblk (files0 : List Nat) (h : Hid) : Nat := files0.getD h 0

/-- number of places block `blk` of `h` is at: not yet queued, queued, being copied, written -/
def cnt (s : St) (h : Hid) (blk : Nat) : Nat :=
  curPend s.cur h blk + s.queue.count ⟨h, blk⟩
  + s.running.countP (fun jp => jp.1 = ⟨h, blk⟩ && jp.2 = .copying) + s.log.count (.write h blk)

/-- completeness: the files not yet opened are those from `next` on, and every block of every opened file is at exactly
one of the four places that `cnt` adds up -/
structure WInv (files0 : List Nat) (s : St) : Prop where
  files_eq  : s.files = files0.drop s.next
  next_le   : s.next ≤ files0.length
  cnt_eq    : ∀ h blk, cnt s h blk = if h < s.next ∧ blk < nblk files0 h then 1 else 0

theorem winv_init (files : List Nat) (cap workers : Nat) (fs : Bool) : WInv files (init files cap workers fs) := by
  constructor <;> simp [init, cnt, curPend]

theorem winv_release {files0 : List Nat} {s t : St} (winv : WInv files0 s) (hd : Hid)
    (hfiles : t.files = s.files) (hnext : t.next = s.next)
    (hcnt : ∀ h blk, cnt t h blk = cnt s h blk) : WInv files0 (release t hd) := by
  rw [release_eq]
  refine ⟨hfiles.trans (hnext ▸ winv.files_eq), hnext ▸ winv.next_le, ?_⟩
  intro h blk
  have hw : (t.log ++ if t.refs hd - 1 = 0 then dropLog t.fsyncOn hd else []).count (.write h blk) =
      t.log.count (.write h blk) := by
    rw [List.count_append]
    split
    · rw [count_write_dropLog]
      rfl
    · rfl
  have h1 := winv.cnt_eq h blk
  have h2 := hcnt h blk
  simp only [cnt, hnext, hw] at h1 h2 ⊢
  exact h2.trans h1

theorem job_eq_iff (j : Job) (h : Hid) (blk : Nat) : j = ⟨h, blk⟩ ↔ j.h = h ∧ j.blk = blk := by
  cases j; simp

/-- the arithmetic of `winv_step` over the four summands of `cnt`: the blocks of a new file enter, a queued block is
taken, a block being copied is written -/
theorem cnt_enter {q r w d : Nat} (h : 0 + q + r + w = 0) : d + q + r + w = d := by
  omega

theorem cnt_take {p q r : Nat} : p + q + (r + 1) = p + (q + 1) + r := by
  simp +arith

theorem cnt_write {p q r r' w t : Nat} (h1 : p + q + r + w = t) (h2 : r' + 1 = r) : p + q + r' + (w + 1) = t := by
  rw [← h1, ← h2]
  simp +arith

/-- a step moves one block to its next place — `push` from the dispatcher's range into the queue, `take` from the queue
into the pool, a job's first move from the pool into the log — so two summands of `cnt` change by the same indicator;
`openNext` brings in the blocks of the next file, and the other steps touch no summand -/
theorem winv_step {files0 : List Nat} {s s' : St} (l : Label) (winv : WInv files0 s)
    (h : step s l = some s') : WInv files0 s' := by
  cases l with
  | openNext =>
    obtain ⟨b, fs', hc, hf, rfl⟩ := step_openNext h
    obtain ⟨hlt, hget, hfs⟩ := drop_eq_cons (winv.files_eq.symm.trans hf)
    have hb : nblk files0 s.next = b := by
      rw [nblk, List.getD_eq_getElem?_getD, hget]
      rfl
    refine ⟨hfs, hlt, ?_⟩
    intro x blk
    have h1 := winv.cnt_eq x blk
    simp only [cnt, curPend, hc] at h1 ⊢
    rw [List.count_append]
    by_cases e : x = s.next
    · subst e
      have hz : ¬ (s.next < s.next ∧ blk < nblk files0 s.next) := fun h => Nat.lt_irrefl _ h.1
      rw [if_neg hz] at h1
      simp [hb]
      exact cnt_enter h1
    · have e' : ¬ s.next = x := fun h => e h.symm
      have e2 : (x < s.next + 1) = (x < s.next) :=
        propext ⟨fun h => Nat.lt_of_le_of_ne (Nat.le_of_lt_succ h) e, Nat.lt_succ_of_lt⟩
      simpa [e', e2] using h1
  | push =>
    obtain ⟨hd, q, b, hc, hq, rfl⟩ := step_push h
    refine ⟨winv.files_eq, winv.next_le, ?_⟩
    intro x blk
    have h1 := winv.cnt_eq x blk
    simp only [cnt, curPend, hc] at h1 ⊢
    rw [List.count_append, List.count_singleton]
    by_cases e : hd = x
    · subst e
      by_cases e2 : blk = q
      · subst e2; simpa [Nat.not_succ_le_self, Nat.add_comm] using h1
      · have e3 : ¬ q = blk := fun h => e2 h.symm
        have : (q + 1 ≤ blk ∧ blk < q + 1 + b) = (q ≤ blk ∧ blk < q + (b + 1)) := by
          rw [Nat.add_right_comm q 1 b]
          exact propext ⟨fun h => ⟨Nat.le_of_succ_le h.1, h.2⟩, fun h => ⟨Nat.lt_of_le_of_ne h.1 e3, h.2⟩⟩
        simpa [e3, this] using h1
    · simpa [e] using h1
  | dropOwn =>
    obtain ⟨hd, q, hc, rfl⟩ := step_dropOwn h
    refine winv_release winv hd rfl rfl ?_
    intro x blk
    simp only [cnt, curPend, hc]
    simp
  | take =>
    obtain ⟨j, q, hq, hr, rfl⟩ := step_take h
    refine ⟨winv.files_eq, winv.next_le, ?_⟩
    intro x blk
    have h1 := winv.cnt_eq x blk
    simp only [cnt, hq] at h1 ⊢
    rw [← h1, List.countP_append, List.count_cons]
    by_cases e : j = ⟨x, blk⟩
    · simp [e]
      exact cnt_take
    · simp [e]
  | stepJob i =>
    obtain ⟨j, hr, rfl⟩ | ⟨j, hr, rfl⟩ | ⟨j, hr, rfl⟩ := step_stepJob h
    · refine ⟨winv.files_eq, winv.next_le, ?_⟩
      intro x blk
      have h1 := winv.cnt_eq x blk
      have h2 := countP_set_add (fun jp : Job × Phase => decide (jp.1 = ⟨x, blk⟩) && decide (jp.2 = .copying))
        (j, .written) _ _ _ hr
      simp only [cnt] at h1 ⊢
      rw [List.count_append, List.count_singleton]
      by_cases e : j = ⟨x, blk⟩
      · simp [e] at h2 ⊢
        exact cnt_write h1 h2
      · have e' : ¬ Event.write j.h j.blk = Event.write x blk := by
          intro h; injection h with a b; exact e ((job_eq_iff _ _ _).mpr ⟨a, b⟩)
        simp [e] at h2
        simpa [e, e', h2] using h1
    · refine ⟨winv.files_eq, winv.next_le, ?_⟩
      intro x blk
      have h1 := winv.cnt_eq x blk
      have h2 := countP_set_add (fun jp : Job × Phase => decide (jp.1 = ⟨x, blk⟩) && decide (jp.2 = .copying))
        (j, .reported) _ _ _ hr
      simp only [cnt] at h1 ⊢
      rw [List.count_append, List.count_singleton]
      simp at h2
      simpa [h2] using h1
    · refine winv_release winv j.h rfl rfl ?_
      intro x blk
      have h2 := countP_eraseIdx_add (fun jp : Job × Phase => decide (jp.1 = ⟨x, blk⟩) && decide (jp.2 = .copying))
        _ _ _ hr
      simp only [cnt]
      simpa using h2

/-- completeness: in a final reachable state every handle that was opened has been closed, and every block
of every file given has been written exactly once -/
theorem final_all_closed (files : List Nat) (cap workers : Nat) (fs : Bool) (s : St)
    (h : Reachable files cap workers fs s) (hf : final s = true) :
    s.next = files.length ∧ (∀ hd, hd < s.next → .closed hd ∈ s.log) ∧
    ∀ hd (hb : hd < files.length), ∀ blk, blk < files[hd] → (s.log.count (.write hd blk) = 1) := by
  have winv : WInv files s := Lts.reach_ind (fun _ => rfl) run_cons (WInv files) (winv_init files cap workers fs)
    (fun _ l _ inv hs => winv_step l inv hs) h
  have hcl := closed_of_final files cap workers fs s h hf
  simp only [final, Bool.and_eq_true, List.isEmpty_iff, Option.isNone_iff_eq_none] at hf
  obtain ⟨⟨⟨hfl, hcur⟩, hq⟩, hr⟩ := hf
  have hnext : s.next = files.length := by
    have h1 := winv.files_eq
    rw [hfl] at h1
    exact Nat.le_antisymm winv.next_le (List.drop_eq_nil_iff.mp h1.symm)
  refine ⟨hnext, hcl, ?_⟩
  intro hd hb blk hblk
  have h1 := winv.cnt_eq hd blk
  have h2 : hd < s.next := by rw [hnext]; exact hb
  have h3 : blk < nblk files hd := by simpa [nblk, List.getD_eq_getElem?_getD, hb] using hblk
  simpa [cnt, curPend, hq, hr, hcur, h2, h3] using h1

end Xcp.Pool
