import XcpProofs.MultiDeref
/-! # Several sources with `--dereference`, the `runSources` form

`multi_deref_sequential` (MultiDeref) is about the concatenation of the items' operation lists computed in the
initial file system.  `runSources` — and the real program — evaluates each later source's `target_base`, and walks the
source, in the state the earlier sources left; under `-L` that walk re-resolves every symbolic link.  This file proves
the `runSources` form.

What is needed beyond the hypotheses of `multi_deref_sequential`: the tree seen from each source through the links
must not depend on what the earlier sources wrote.  This is a genuine condition (see the counter-example at the end:
a link of a later source leading to the destination directory itself).  It is stated in two forms:

* `Separated fs Ts p s` — the congruence itself: `derefS g walkFuel p [] = some s` in every state `g` that agrees with
  `fs` off the targets `Ts` (`AgreeOff`).  `multi_deref_run` takes it as a hypothesis, per item.
* `derefAway fs Ts walkFuel p [] = true` — a decidable, computable condition on the initial file system: for every path
  the dereferencing walk from `p` resolves, no place the resolution looks at (every component of the path and of every
  link text it expands) is at or below a target, and the places it arrives at are neither at/below nor above a
  target.  `separated_of_away` (proved: `derefS_congr`, from a congruence of path resolution, `walkPath_congr`) shows
  that it implies `Separated`; `multi_deref_run_of_away` is the resulting theorem with no congruence hypothesis. -/
namespace Xcp

theorem walkPath_congr {fs g : Fs} {Ts : List (List Name)} (h : AgreeOff fs g Ts) (fl : Bool) :
    ∀ (fuel : Nat) (cur : List Name) (cs : List Comp),
      (∀ v ∈ walkVisits fs.root fl fuel cur cs, ∀ T ∈ Ts, ¬ T <+: v) →
      walkPath g.root fl fuel cur cs = walkPath fs.root fl fuel cur cs :=
  fun fuel cur cs hv => walkPath_agree fs.root g.root fl fuel cur cs fun v hm => h.obsAt (hv v hm)

/-- the places the resolution of a plain path looks at -/
def statVisits (fs : Fs) (ns : List Name) (fl : Bool) : List (List Name) :=
  walkVisits fs.root fl resolveFuel [] (ns.map .name)

theorem resolve_congr {fs g : Fs} {Ts : List (List Name)} (h : AgreeOff fs g Ts) (fl : Bool) (ns : List Name)
    (hv : ∀ v ∈ statVisits fs ns fl, ∀ T ∈ Ts, ¬ T <+: v) :
    g.resolve (plainPath ns) fl = fs.resolve (plainPath ns) fl := by
  rw [resolve_plainPath, resolve_plainPath, walkPath_congr h fl _ _ _ hv]

theorem stat_congr {fs g : Fs} {Ts : List (List Name)} (h : AgreeOff fs g Ts) (ns cp : List Name) (node : Node)
    (hv : ∀ v ∈ statVisits fs ns true, ∀ T ∈ Ts, ¬ T <+: v)
    (hcp : ∀ T ∈ Ts, ¬ T <+: cp ∧ ¬ cp <+: T)
    (hs : fs.stat (plainPath ns) = some (cp, node)) : g.stat (plainPath ns) = some (cp, node) := by
  obtain ⟨hr, hg⟩ := stat_some hs
  simp only [Fs.stat, resolve_congr h true ns hv, hr, h.unrel cp hcp, hg, Option.map_some]

theorem lstat_congr {fs g : Fs} {Ts : List (List Name)} (h : AgreeOff fs g Ts) (ns cp : List Name) (node : Node)
    (hv : ∀ v ∈ statVisits fs ns false, ∀ T ∈ Ts, ¬ T <+: v)
    (hcp : ∀ T ∈ Ts, ¬ T <+: cp ∧ ¬ cp <+: T)
    (hs : fs.lstat (plainPath ns) = some (cp, node)) : g.lstat (plainPath ns) = some (cp, node) := by
  obtain ⟨hr, hg⟩ := lstat_some hs
  simp only [Fs.lstat, resolve_congr h false ns hv, hr, h.unrel cp hcp, hg, Option.map_some]

/-- not at or below any target -/
def awayB (Ts : List (List Name)) (v : List Name) : Bool := Ts.all fun T => !(T.isPrefixOf v)

/-- neither at/below nor above any target -/
def unrelB (Ts : List (List Name)) (v : List Name) : Bool :=
  Ts.all fun T => !(T.isPrefixOf v) && !(v.isPrefixOf T)

theorem awayB_spec {Ts : List (List Name)} {v : List Name} (h : awayB Ts v = true) : ∀ T ∈ Ts, ¬ T <+: v := by
  intro T hT hp
  simp only [awayB, List.all_eq_true, Bool.not_eq_true'] at h
  have := h T hT
  rw [← Bool.not_eq_true, List.isPrefixOf_iff_prefix] at this
  exact this hp

theorem unrelB_spec {Ts : List (List Name)} {v : List Name} (h : unrelB Ts v = true) :
    ∀ T ∈ Ts, ¬ T <+: v ∧ ¬ v <+: T := by
  intro T hT
  simp only [unrelB, List.all_eq_true, Bool.and_eq_true, Bool.not_eq_true'] at h
  obtain ⟨h1, h2⟩ := h T hT
  rw [← Bool.not_eq_true, List.isPrefixOf_iff_prefix] at h1 h2
  exact ⟨h1, h2⟩

/-- for every path the dereferencing walk from `path` resolves (in `fs`): no place the resolution looks at is at or
below a target, and the places it arrives at (with and without following a final link) are unrelated to every target -/
def derefAway (fs : Fs) (Ts : List (List Name)) : (fuel : Nat) → (path : List Name) → (anc : List (List Name)) → Bool
  | 0, _, _ => true
  | f+1, path, anc =>
    (statVisits fs path false).all (awayB Ts) && (statVisits fs path true).all (awayB Ts) &&
    (match fs.lstat (plainPath path), fs.stat (plainPath path) with
    | some (lc, _), some (cp, node) =>
      unrelB Ts lc && unrelB Ts cp &&
      (match node with
      | .dir es => (es.map (·.1)).all fun m => derefAway fs Ts f (path ++ [m]) (cp :: anc)
      | _ => true)
    | _, _ => true)

theorem derefAway_succ_cp {fs : Fs} {Ts : List (List Name)} {f : Nat} {path : List Name} {anc : List (List Name)}
    {lc cp : List Name} {ln node : Node} (hl : fs.lstat (plainPath path) = some (lc, ln))
    (hst : fs.stat (plainPath path) = some (cp, node)) (ha : derefAway fs Ts (f + 1) path anc = true) :
    unrelB Ts cp = true := by
  simp only [derefAway, hl, hst, Bool.and_eq_true] at ha
  exact ha.2.1.2

theorem collect_some_congr {α β : Type} {f f' : α → Option β} : ∀ {l : List α} {bs : List β},
    collect f l = some bs → (∀ a ∈ l, ∀ b, f a = some b → f' a = some b) → collect f' l = some bs := by
  intro l
  induction l with
  | nil => intro bs h _; exact h
  | cons a r ih =>
    intro bs h hf
    obtain ⟨b, bs', h1, h2, h3⟩ := collect_cons_some h
    subst h3
    have e1 := hf a List.mem_cons_self b h1
    have e2 := ih h2 (fun a' ha' => hf a' (List.mem_cons_of_mem _ ha'))
    simp only [collect, e1, e2]

/-- the tree seen through the links is the same in every state that agrees with `fs` off the targets -/
theorem derefS_congr {fs g : Fs} {Ts : List (List Name)} (h : AgreeOff fs g Ts) :
    ∀ (f : Nat) (path : List Name) (anc : List (List Name)) (s : SNode),
      derefS fs f path anc = some s → derefAway fs Ts f path anc = true → derefS g f path anc = some s := by
  intro f
  induction f with
  | zero => intro path anc s hs _; simp [derefS] at hs
  | succ f ih =>
    intro path anc s hs ha
    obtain ⟨lcp, lnode, cp, node, hl, hst, hcase⟩ := derefS_succ_some hs
    simp only [derefAway, hl, hst, Bool.and_eq_true, List.all_eq_true] at ha
    obtain ⟨⟨hv1, hv2⟩, ⟨hu1, hu2⟩, hch⟩ := ha
    have gl := lstat_congr h path lcp lnode (fun v hv => awayB_spec (hv1 v hv)) (unrelB_spec hu1) hl
    have gs := stat_congr h path cp node (fun v hv => awayB_spec (hv2 v hv)) (unrelB_spec hu2) hst
    rcases hcase with ⟨k, hnode, hs'⟩ | ⟨k, d, hnode, hk, hs'⟩ | ⟨es, ss, hnode, hloop, hcol, hs'⟩
    · subst hnode; subst hs'
      simp only [derefS, gl, gs]
    · subst hnode; subst hs'
      simp only [derefS, gl, gs, hk, if_true]
    · subst hnode; subst hs'
      simp only [List.all_eq_true] at hch
      have hcol' : collect (fun m => (derefS g f (path ++ [m]) (cp :: anc)).map fun x => (m, x)) (es.map (·.1)) =
          some ss := by
        apply collect_some_congr hcol
        intro m hm b hb
        cases hd : derefS fs f (path ++ [m]) (cp :: anc) with
        | none => rw [hd] at hb; cases hb
        | some x =>
          rw [hd] at hb
          rw [ih _ _ x hd (hch m hm)]
          exact hb
      simp only [derefS, gl, gs, hloop, hcol']
      rfl

/-- the targets of the items -/
def targetsOf (dn : List Name) (items : List DerefSrc) : List (List Name) := items.map fun e => dn ++ [e.base]

/-- the congruence, as a property of a source: the tree seen from `p` through the links is `s` in every state that
agrees with `fs` off the targets -/
def Separated (fs : Fs) (Ts : List (List Name)) (p : List Name) (s : SNode) : Prop :=
  ∀ g : Fs, AgreeOff fs g Ts → derefS g walkFuel p [] = some s

theorem separated_of_away {fs : Fs} {Ts : List (List Name)} {p : List Name} {s : SNode}
    (hder : derefS fs walkFuel p [] = some s) (ha : derefAway fs Ts walkFuel p [] = true) : Separated fs Ts p s :=
  fun _ h => derefS_congr h walkFuel p [] s hder ha

theorem targetsOf_not_above (dn : List Name) (items : List DerefSrc) : ∀ T ∈ targetsOf dn items, ¬ T <+: dn := by
  intro T hT
  obtain ⟨e, _, rfl⟩ := List.mem_map.1 hT
  exact child_not_prefix dn e.base

/-- each source of `runSources` under `-L` whose tree through the links is the same in every state the run passes
through (`Separated`) is an exact overlay step: the walk in the state the earlier sources left gives the operations of
that tree -/
theorem exactStep_runSourceD (c : Cfg) (texts : GiTexts) (hd : c.dereference = true) (hn : c.noClobber = false)
    (hg : c.gitignore = false) (hnt : c.noTargetDir = false) {fs0 : Fs} {dn : List Name} {items : List DerefSrc}
    {es0 : Entries} (hdd : fs0.root.getAt dn = some (.dir es0)) {e : DerefSrc} (he : e ∈ items)
    (hpe : e.path = plainPath e.path.names) (hfn : e.path.fileName = some e.base)
    (hsep : Separated fs0 (targetsOf dn items) e.path.names e.s) (hsrc : SrcIn fs0.root e.s)
    (hcop : e.s.erase.Copyable walkFuel) (haway : ∀ T ∈ targetsOf dn items, ReadsAway e.s T)
    (hdl : dn.length + 1 + walkFuel < 256) :
    ExactStep DerefSrc.toCopy (fun g e => runSource c texts (plainPath dn) g e.path) fs0 dn (targetsOf dn items) e := by
  intro g h hcomp
  obtain ⟨es, hes⟩ := h.off.dir hdd (targetsOf_not_above dn items)
  have hshape := walk_shape_deref g c hd (root_not_link_of_dir hes) e.path.names (dn ++ [e.base]) (.inl hn) walkFuel [] [] e.s
    (by rw [List.append_nil]; exact hsep g h.off)
  rw [← hpe, List.append_nil] at hshape
  show runSource c texts (plainPath dn) g e.path = _
  rw [runSource_eq (targetBase_dir g c hnt dn es e.path e.base hfn (by omega) hes)
    (parseIgnore_off g c texts e.path hg), hshape]
  exact exactStep_opsOfS c hn hdd (targetsOf_not_above dn items) e hsrc hcop haway (List.mem_map_of_mem he) hdl g h
    hcomp

/-- several sources with `--dereference`, `runSources`: each `target_base` and each walk evaluated in the state the
earlier sources left.  `hsep` is the congruence hypothesis (implied by `derefAway`: `multi_deref_run_of_away`). -/
theorem multi_deref_run (fs : Fs) (c : Cfg) (texts : GiTexts) (dest : RPath) (items : List DerefSrc)
    (H : DerefHyp fs dest items)
    (hd : c.dereference = true) (hn : c.noClobber = false) (hg : c.gitignore = false)
    (hnt : c.noTargetDir = false) (hdest : PlainTarget fs dest)
    (hsep : ∀ e ∈ items, Separated fs (targetsOf dest.names items) e.path.names e.s)
    (hcomp : ∀ e ∈ items, Compatible (fs.root.getAt (dest.names ++ [e.base])) e.s.erase) :
    ∃ fs', runSources fs c texts dest (items.map (·.path)) = ⟨.ok, fs'⟩ ∧
      FsEq fs' { fs with root := overlayAllD fs.root dest.names items fs.root } := by
  obtain ⟨hwf, ⟨es0, hes0⟩, hsrc, hnd, haway, hlen⟩ := H
  have hgood : ∀ e ∈ items, e.s.erase.Copyable walkFuel ∧ SrcIn fs.root e.s := fun e he =>
    derefS_good fs (root_not_link_of_dir hes0) hwf.2.1 walkFuel e.path.names [] e.s (hsrc e he).2.2
  have h := foldRun_overlay (cp := DerefSrc.toCopy) hes0 (targetsOf_not_above dest.names items) items fs
    (by rw [List.map_map]; exact hnd) (fun e he => List.mem_map_of_mem he)
    (fun e he => overlay_WF walkFuel _ (hgood e he).1 _
      (fun x hx => subtree_WF hwf.2.1 hx))
    hcomp
    (fun e he => exactStep_runSourceD c texts hd hn hg hnt hes0 he (absNames_eq (hsrc e he).1) (hsrc e he).2.1
      (hsep e he) (hgood e he).2 (hgood e he).1
      (by
        intro T hT
        obtain ⟨e', he', rfl⟩ := List.mem_map.1 hT
        exact haway e he e' he')
      hlen)
    (Ready.init hwf _ _)
  rw [← foldRun_map, ← runSources_eq_foldRun, ← plainTarget_eq fs dest hdest] at h
  exact h

/-- the same with the decidable condition on the initial file system in place of the congruence hypothesis -/
theorem multi_deref_run_of_away (fs : Fs) (c : Cfg) (texts : GiTexts) (dest : RPath) (items : List DerefSrc)
    (H : DerefHyp fs dest items)
    (hd : c.dereference = true) (hn : c.noClobber = false) (hg : c.gitignore = false)
    (hnt : c.noTargetDir = false) (hdest : PlainTarget fs dest)
    (haw : ∀ e ∈ items, derefAway fs (targetsOf dest.names items) walkFuel e.path.names [] = true)
    (hcomp : ∀ e ∈ items, Compatible (fs.root.getAt (dest.names ++ [e.base])) e.s.erase) :
    ∃ fs', runSources fs c texts dest (items.map (·.path)) = ⟨.ok, fs'⟩ ∧
      FsEq fs' { fs with root := overlayAllD fs.root dest.names items fs.root } :=
  multi_deref_run fs c texts dest items H hd hn hg hnt hdest
    (fun e he => separated_of_away (H.src e he).2.2 (haw e he)) hcomp

namespace MultiDerefExample

open DerefExample (nS nO nT)

theorem ex_dest_plain : PlainTarget exFs exDestP := by
  refine ⟨rfl, rfl, (plainPath_namesOnly _).2.2, ?_⟩
  rw [exDestP, plainPath_names]
  have hT : exFs.root.getAt [nT] = some (.dir [(nB, .dir [([121], .file 9), ([122], .file 7)])]) := by rfl
  exact noLinkUpto_of_getAt hT rfl

theorem ex_away : ∀ e ∈ exItems, derefAway exFs (targetsOf [nT] exItems) walkFuel e.path.names [] = true := by
  intro e he
  simp only [exItems, List.mem_cons, List.not_mem_nil, or_false] at he
  rcases he with he | he <;> subst he
  · show derefAway exFs (targetsOf [nT] exItems) walkFuel (plainPath [nS]).names [] = true
    rw [plainPath_names]; rfl
  · show derefAway exFs (targetsOf [nT] exItems) walkFuel (plainPath [nB]).names [] = true
    rw [plainPath_names]; rfl

/-- the `runSources` theorem applied to the instance -/
theorem example_runSources (texts : GiTexts) :
    ∃ fs', runSources exFs exCfg texts exDestP (exItems.map (·.path)) = ⟨.ok, fs'⟩ ∧
      FsEq fs' { exFs with root := exFs.root.setAt [nT] exDestAfter } := by
  have h := multi_deref_run_of_away exFs exCfg texts exDestP exItems ex_hyp rfl rfl rfl rfl ex_dest_plain
    (by rw [exDestP, plainPath_names]; exact ex_away) (by rw [exDestP, plainPath_names]; exact ex_hcomp)
  rw [exDestP, plainPath_names, ex_result] at h
  rw [exDestP]
  exact h

/-- the model itself, run on the instance -/
example : (runSources exFs exCfg [] exDestP (exItems.map (·.path))).exit = .ok := by rfl
example : (runSources exFs exCfg [] exDestP (exItems.map (·.path))).fs.root.getAt [nT] = some exDestAfter := by rfl

end MultiDerefExample

/-! ## The separation condition is genuinely needed

`/S` = { file `a` }, `/B` = { `k` → `/T` } and the destination `/T` is an empty directory; the run is
`xcp -rL /S /B /T`.  Seen from the initial state, `/B` through the links is { `k` = an empty directory }, and every
hypothesis of `multi_deref_sequential` holds (no leaf at all is read from the target regions).  But the real walk of
`/B` happens after `/S` has been copied to `/T/S`, and then `k` lists `S`: the run copies `/T/S` into `/T/B/k/S`.  So
`runSources` does not end in the overlay computed from the initial state; `derefAway` is false on this instance (the
link leads to a place above the targets). -/
namespace MultiDerefCounterExample

open DerefExample (nS nT)
open MultiDerefExample (nB)

def cxRoot : Node := .dir [
  (nS, .dir [([97], .file 1)]),
  (nB, .dir [([107], .link ⟨true, [.name nT], false⟩)]),
  (nT, .dir [])]
def cxFs : Fs := ⟨cxRoot, []⟩
def cxCfg : Cfg := { dereference := true }
def cxS : SNode := .dir [nS] [([97], .file [nS, [97]] 1)]
def cxB : SNode := .dir [nB] [([107], .dir [nT] [])]
def cxItems : List DerefSrc := [⟨plainPath [nS], nS, cxS⟩, ⟨plainPath [nB], nB, cxB⟩]

/-- the trees seen through the links, in the initial state -/
example : derefS cxFs walkFuel [nS] [] = some cxS ∧ derefS cxFs walkFuel [nB] [] = some cxB := ⟨rfl, rfl⟩
/-- no leaf is read from a target region -/
example : ∀ e ∈ cxItems, ∀ e' ∈ cxItems, ReadsAway e.s ([nT] ++ [e'.base]) := by decide
/-- the concatenated lists computed in the initial state give the overlay: `/T/B/k` is an empty directory … -/
example : (execOps cxFs cxCfg (multiOpsD cxFs cxCfg (plainPath [nT]) cxItems)).fs.root.getAt [nT, nB, [107]] =
    some (.dir []) := by rfl
/-- … but `runSources` copies the already copied `/T/S` into it -/
example : (runSources cxFs cxCfg [] (plainPath [nT]) (cxItems.map (·.path))).fs.root.getAt [nT, nB, [107]] =
    some (.dir [(nS, .dir [([97], .file 1)])]) := by rfl
/-- and the decidable condition rejects the instance -/
example : derefAway cxFs (targetsOf [nT] cxItems) walkFuel [nB] [] = false := by rfl

end MultiDerefCounterExample

end Xcp
