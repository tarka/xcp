import XcpModel.Bytes
/-! Lemmas on the byte-level write model: pointwise semantics, commutation, coverage. -/
namespace Xcp

@[simp] theorem covered_nil (i : Nat) : covered [] i ↔ False :=
  ⟨fun ⟨_, h, _⟩ => absurd h List.not_mem_nil, False.elim⟩

@[simp] theorem covered_cons (j : Nat × Nat) (l : List (Nat × Nat)) (i : Nat) :
    covered (j :: l) i ↔ (j.1 ≤ i ∧ i < j.1 + j.2) ∨ covered l i :=
  ⟨fun ⟨k, hk, hc⟩ => (List.mem_cons.mp hk).elim (fun e => .inl (e ▸ hc)) (fun hk => .inr ⟨k, hk, hc⟩),
   fun h => h.elim (fun hc => ⟨j, List.mem_cons_self, hc⟩) (fun ⟨k, hk, hc⟩ => ⟨k, List.mem_cons_of_mem _ hk, hc⟩)⟩

@[simp] theorem covered_append (l1 l2 : List (Nat × Nat)) (i : Nat) :
    covered (l1 ++ l2) i ↔ covered l1 i ∨ covered l2 i :=
  ⟨fun ⟨k, hk, hc⟩ => (List.mem_append.mp hk).elim (fun hk => .inl ⟨k, hk, hc⟩) (fun hk => .inr ⟨k, hk, hc⟩),
   fun h => h.elim (fun ⟨k, hk, hc⟩ => ⟨k, List.mem_append_left _ hk, hc⟩)
     (fun ⟨k, hk, hc⟩ => ⟨k, List.mem_append_right _ hk, hc⟩)⟩

theorem writeAt_length (dst : List Byte) (off : Nat) (data : List Byte)
    (h : off + data.length ≤ dst.length) : (writeAt dst off data).length = dst.length := by
  simp only [writeAt, List.length_append, List.length_take, List.length_drop,
    Nat.min_eq_left (Nat.le_trans (Nat.le_add_right ..) h)]
  exact Nat.add_sub_cancel' h

theorem writeAt_getElem? (dst : List Byte) (off : Nat) (data : List Byte) (i : Nat)
    (h : off ≤ dst.length) :
    (writeAt dst off data)[i]? =
      if off ≤ i ∧ i < off + data.length then data[i - off]? else dst[i]? := by
  simp only [writeAt, List.getElem?_append, List.getElem?_take, List.getElem?_drop,
    List.length_append, List.length_take, Nat.min_eq_left h]
  by_cases h1 : i < off
  · rw [if_pos (Nat.lt_add_right _ h1), if_pos h1, if_pos h1, if_neg (mt And.left (Nat.not_le_of_gt h1))]
  · have h1' : off ≤ i := Nat.le_of_not_lt h1
    by_cases h2 : i < off + data.length
    · rw [if_pos h2, if_neg h1, if_pos ⟨h1', h2⟩]
    · rw [if_neg h2, if_neg (mt And.right h2), Nat.add_sub_cancel' (Nat.le_of_not_lt h2)]

theorem copyRange_beyond (src dst : Bytes) (off n : Nat) (h : src.length ≤ off) :
    copyRange src dst off n = dst := by
  rw [copyRange, List.drop_of_length_le h, List.take_nil, writeAt, List.append_nil, List.length_nil,
    Nat.add_zero, List.take_append_drop]

theorem copyRange_zero (src dst : Bytes) (off : Nat) : copyRange src dst off 0 = dst := by
  rw [copyRange, List.take_zero, writeAt, List.append_nil, List.length_nil, Nat.add_zero,
    List.take_append_drop]

theorem copyRange_length (src dst : Bytes) (off n : Nat) (hl : dst.length = src.length) :
    (copyRange src dst off n).length = src.length := by
  by_cases ho : off ≤ src.length
  · rw [copyRange, writeAt_length, hl]
    rw [List.length_take, List.length_drop, hl]
    exact Nat.add_le_of_le_sub' ho (Nat.min_le_right ..)
  · rw [copyRange_beyond src dst off n (Nat.le_of_not_le ho), hl]

/-- a job copies the part of its range that lies inside the file, wherever the range lies -/
theorem copyRange_get (src dst : Bytes) (off n i : Nat) (hl : dst.length = src.length) :
    (copyRange src dst off n)[i]? = if off ≤ i ∧ i < off + n then src[i]? else dst[i]? := by
  by_cases ho : off ≤ src.length
  · rw [copyRange, writeAt_getElem? _ _ _ _ (hl ▸ ho), List.getElem?_take, List.getElem?_drop,
      List.length_take, List.length_drop, ← Nat.add_min_add_left, Nat.add_sub_cancel' ho]
    by_cases c : off ≤ i ∧ i < off + n
    · rw [if_pos c]
      by_cases hi : i < src.length
      · rw [if_pos ⟨c.1, Nat.lt_min.mpr ⟨c.2, hi⟩⟩, if_pos (Nat.sub_lt_left_of_lt_add c.1 c.2),
          Nat.add_sub_cancel' c.1]
      · rw [if_neg (fun h => hi (Nat.lt_min.mp h.2).2), List.getElem?_eq_none (hl ▸ Nat.le_of_not_lt hi),
          List.getElem?_eq_none (Nat.le_of_not_lt hi)]
    · rw [if_neg c, if_neg (fun h => c ⟨h.1, (Nat.lt_min.mp h.2).1⟩)]
  · rw [copyRange_beyond src dst off n (Nat.le_of_not_le ho)]
    split
    · rename_i c
      have hi : src.length ≤ i := Nat.le_trans (Nat.le_of_not_le ho) c.1
      rw [List.getElem?_eq_none (hl ▸ hi), List.getElem?_eq_none hi]
    · rfl

theorem copyRange_comm (src dst : Bytes) (o1 n1 o2 n2 : Nat) (hl : dst.length = src.length) :
    copyRange src (copyRange src dst o1 n1) o2 n2 = copyRange src (copyRange src dst o2 n2) o1 n1 := by
  apply List.ext_getElem?
  intro i
  rw [copyRange_get _ _ _ _ _ (copyRange_length _ _ _ _ hl), copyRange_get _ _ _ _ _ hl,
    copyRange_get _ _ _ _ _ (copyRange_length _ _ _ _ hl), copyRange_get _ _ _ _ _ hl]
  split <;> split <;> rfl

theorem runJobs_get (src : Bytes) : ∀ (l : List (Nat × Nat)) (dst : Bytes),
    dst.length = src.length → ∀ i,
    (runJobs src dst l)[i]? = if covered l i then src[i]? else dst[i]? := by
  intro l
  induction l with
  | nil => intro dst _ i; rw [if_neg (covered_nil i).mp]; rfl
  | cons j t ih =>
    intro dst hl i
    show (runJobs src (copyRange src dst j.1 j.2) t)[i]? = _
    rw [ih _ (copyRange_length src dst j.1 j.2 hl) i, copyRange_get src dst j.1 j.2 i hl]
    simp only [covered_cons]
    by_cases c1 : covered t i
    · rw [if_pos c1, if_pos (.inr c1)]
    · rw [if_neg c1]
      by_cases c2 : j.1 ≤ i ∧ i < j.1 + j.2
      · rw [if_pos c2, if_pos (.inl c2)]
      · rw [if_neg c2, if_neg (fun h => h.elim c2 c1)]

/-- any two job lists covering the same positions give the same file; in particular any order, any
    duplication (retries), any split of a block into short copies -/
theorem runJobs_ext (src dst : Bytes) (l1 l2 : List (Nat × Nat)) (hl : dst.length = src.length)
    (hc : ∀ i, covered l1 i ↔ covered l2 i) : runJobs src dst l1 = runJobs src dst l2 := by
  apply List.ext_getElem?
  intro i
  rw [runJobs_get src l1 dst hl, runJobs_get src l2 dst hl]
  simp only [hc i]

theorem runJobs_exact (src : Bytes) (l : List (Nat × Nat))
    (hcov : ∀ i, i < src.length → ¬ covered l i → src[i]? = some 0) :
    runJobs src (List.replicate src.length 0) l = src := by
  apply List.ext_getElem?
  intro i
  rw [runJobs_get src l _ List.length_replicate]
  split
  · rfl
  · rename_i c
    by_cases hi : i < src.length
    · rw [hcov i hi c, List.getElem?_replicate, if_pos hi]
    · rw [List.getElem?_eq_none (Nat.le_of_not_lt hi),
        List.getElem?_eq_none (List.length_replicate ▸ Nat.le_of_not_lt hi)]

end Xcp
