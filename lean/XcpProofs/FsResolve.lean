import XcpProofs.FsTree
/-! # Path resolution

`walkPath`, `Fs.resolve`, `stat`/`lstat`: following the last component or not, how much fuel a walk needs, and
that a path spelled with names (`plainPath`) resolves to the place it spells, whatever designates an existing object.
`walkVisits` lists the places a walk looks at; two trees that show the same there give the same walk
(`walkPath_agree`).  The inductions over `walkPath` use its own induction principle, one case per branch of the
definition:
1 no fuel; 2 no component left; 3 `.`; 4 `..`; at a name with nothing there: 5 last component (`.missing`), 6 not last
(`ENOENT`); at a link: 7 last and not followed (found), 8 expanded; 9 at a directory (descend); at anything else:
10 last component (found), 11 not last (`ENOTDIR`). -/

namespace Xcp

theorem walkPath_found_pos {root : Node} {fl : Bool} {fuel : Nat} {cur : List Name} {cs : List Comp}
    {c : List Name} (h : walkPath root fl fuel cur cs = .found c) : 0 < fuel := by
  cases fuel with
  | zero => cases h
  | succ f => exact Nat.succ_pos f

/-- a canonical path at which path resolution may stand: the root, or an existing directory -/
def GoodCur (root : Node) (cur : List Name) : Prop := cur = [] ∨ ∃ es, root.getAt cur = some (.dir es)

theorem GoodCur.dropLast {root : Node} {cur : List Name} (h : GoodCur root cur) : GoodCur root cur.dropLast := by
  rcases List.eq_nil_or_concat cur with rfl | ⟨init, last, rfl⟩
  · exact .inl rfl
  · rw [List.concat_eq_append, List.dropLast_concat]
    rcases h with h | ⟨es, h⟩
    · exact absurd h (by simp)
    · rw [List.concat_eq_append] at h
      exact .inr (getAt_append_dir h (List.cons_ne_nil last []))

theorem GoodCur.dir {root : Node} {cur : List Name} (h : GoodCur root cur) (hroot : root.isDir = true) :
    ∃ es, root.getAt cur = some (.dir es) := by
  rcases h with h | h
  · subst h
    cases root <;> simp [Node.isDir] at hroot
    exact ⟨_, getAt_nil _⟩
  · exact h

theorem GoodCur.link {root : Node} {cur : List Name} (h : GoodCur root cur) (t : RPath) :
    GoodCur root (if t.abs then [] else cur) := by
  split
  · exact .inl rfl
  · exact h

theorem walkPath_missing (root : Node) (fl : Bool) (fuel : Nat) (cur : List Name) (cs : List Comp)
    (par : List Name) (n : Name) :
    walkPath root fl fuel cur cs = .missing par n →
      root.getAt (par ++ [n]) = none ∧ (GoodCur root cur → GoodCur root par) := by
  fun_induction walkPath root fl fuel cur cs with
  | case1 => intro h; cases h
  | case2 => intro h; cases h
  | case3 f cur r ih => exact ih
  | case4 f cur r ih => exact fun h => ⟨(ih h).1, fun hg => (ih h).2 hg.dropLast⟩
  | case5 f cur m r hg hr => intro h; cases h; exact ⟨hg, id⟩
  | case6 => intro h; cases h
  | case7 => intro h; cases h
  | case8 f cur m r t hg hr ih => exact fun h => ⟨(ih h).1, fun hg => (ih h).2 (hg.link t)⟩
  | case9 f cur m r es hg ih => exact fun h => ⟨(ih h).1, fun _ => (ih h).2 (.inr ⟨es, hg⟩)⟩
  | case10 => intro h; cases h
  | case11 => intro h; cases h

theorem walkPath_name_none {root : Node} {cur : List Name} {n : Name} (fl : Bool) (f : Nat) (r : List Comp)
    (h : root.getAt (cur ++ [n]) = none) :
    walkPath root fl (f + 1) cur (.name n :: r) = if r.isEmpty then .missing cur n else .err .ENOENT := by
  simp only [walkPath, h]

theorem walkPath_name_link {root : Node} {cur : List Name} {n : Name} {t : RPath} (fl : Bool) (f : Nat)
    (r : List Comp) (h : root.getAt (cur ++ [n]) = some (.link t)) :
    walkPath root fl (f + 1) cur (.name n :: r) =
      if r.isEmpty && !fl then .found (cur ++ [n])
      else walkPath root fl f (if t.abs then [] else cur) (t.comps ++ r) := by
  simp only [walkPath, h]

theorem walkPath_name_dir {root : Node} {cur : List Name} {n : Name} {es : Entries} (fl : Bool) (f : Nat)
    (r : List Comp) (h : root.getAt (cur ++ [n]) = some (.dir es)) :
    walkPath root fl (f + 1) cur (.name n :: r) = walkPath root fl f (cur ++ [n]) r := by
  simp only [walkPath, h]

theorem walkPath_name_leaf {root : Node} {cur : List Name} {n : Name} {x : Node} (fl : Bool) (f : Nat)
    (r : List Comp) (h : root.getAt (cur ++ [n]) = some x) (hl : x.isLink = false) (hd : x.isDir = false) :
    walkPath root fl (f + 1) cur (.name n :: r) = if r.isEmpty then .found (cur ++ [n]) else .err .ENOTDIR := by
  cases x with
  | link t => cases hl
  | dir es => cases hd
  | _ => simp only [walkPath, h]

theorem isLink_false_of {x : Node} (h : ∀ t, x = .link t → False) : x.isLink = false := by
  cases x with
  | link t => exact (h t rfl).elim
  | _ => rfl

theorem isDir_false_of {x : Node} (h : ∀ es, x = .dir es → False) : x.isDir = false := by
  cases x with
  | dir es => exact (h es rfl).elim
  | _ => rfl

/-- a link whose text is its own name is expanded once per unit of fuel and never resolves -/
theorem walkPath_self_link (root : Node) (fl : Bool) (cur : List Name) (n : Name) (r : List Comp)
    (h : root.getAt (cur ++ [n]) = some (.link ⟨false, [.name n], false⟩)) (hr : r.isEmpty = false ∨ fl = true)
    (fuel : Nat) : walkPath root fl fuel cur (.name n :: r) = .err .ELOOP := by
  induction fuel with
  | zero => rfl
  | succ f ih =>
    have hc : (r.isEmpty && !fl) = false := by rcases hr with h | h <;> simp [h]
    rw [walkPath_name_link fl f r h, hc, if_neg Bool.false_ne_true]
    exact ih

theorem walkPath_nofollow (root : Node) (fuel : Nat) (cur : List Name) (cs : List Comp) :
    (∃ q tg, walkPath root false fuel cur cs = .found q ∧ root.getAt q = some (.link tg)) ∨
      walkPath root true fuel cur cs = walkPath root false fuel cur cs := by
  fun_induction walkPath root false fuel cur cs with
  | case1 => exact .inr rfl
  | case2 => exact .inr rfl
  | case3 f cur r ih => exact ih
  | case4 f cur r ih => exact ih
  | case5 f cur m r hg hr => right; rw [walkPath_name_none true f r hg, if_pos hr]
  | case6 f cur m r hg hr => right; rw [walkPath_name_none true f r hg, if_neg hr]
  | case7 f cur m r t hg hr => exact .inl ⟨_, t, rfl, hg⟩
  | case8 f cur m r t hg hr ih =>
    rw [walkPath_name_link true f r hg, Bool.not_true, Bool.and_false, if_neg Bool.false_ne_true]
    exact ih
  | case9 f cur m r es hg ih => rw [walkPath_name_dir true f r hg]; exact ih
  | case10 f cur m r x hnl hnd hg hr =>
    right; rw [walkPath_name_leaf true f r hg (isLink_false_of hnl) (isDir_false_of hnd), if_pos hr]
  | case11 f cur m r x hnl hnd hg hr =>
    right; rw [walkPath_name_leaf true f r hg (isLink_false_of hnl) (isDir_false_of hnd), if_neg hr]

theorem walkPath_follow_nonlink (root : Node) (hroot : root.isLink = false) (fuel : Nat) (cur : List Name)
    (comps : List Comp) (c : List Name) :
    GoodCur root cur → walkPath root true fuel cur comps = .found c →
      ∃ n, root.getAt c = some n ∧ n.isLink = false := by
  fun_induction walkPath root true fuel cur comps with
  | case1 => intro _ h; cases h
  | case2 f cur =>
    intro hg h
    cases h
    rcases hg with hg | ⟨es, hg⟩
    · subst hg; exact ⟨root, rfl, hroot⟩
    · exact ⟨_, hg, rfl⟩
  | case3 f cur r ih => exact ih
  | case4 f cur r ih => exact fun hg => ih hg.dropLast
  | case5 => intro _ h; cases h
  | case6 => intro _ h; cases h
  | case7 f cur m r t hg hr => simp at hr
  | case8 f cur m r t hg hr ih => exact fun hc => ih (hc.link t)
  | case9 f cur m r es hg ih => exact fun _ => ih (.inr ⟨es, hg⟩)
  | case10 f cur m r x hnl hnd hg hr => intro _ h; cases h; exact ⟨x, hg, isLink_false_of hnl⟩
  | case11 => intro _ h; cases h

/-- the fuel a successful walk has used bounds the depth of what it found: one unit per name of the canonical
path, and one more to stop at a directory -/
theorem walkPath_found_bound (root : Node) (fl : Bool) (fuel : Nat) (cur : List Name) (cs : List Comp)
    (c : List Name) (x : Node) :
    walkPath root fl fuel cur cs = .found c → root.getAt c = some x →
      c.length + (if x.isDir then 1 else 0) ≤ cur.length + fuel := by
  have hδ : (if x.isDir then 1 else 0) ≤ 1 := by split <;> decide
  have one_more : ∀ (l : List Name) (m : Name) (f : Nat), (l ++ [m]).length + f = l.length + (f + 1) := fun l m f => by
    rw [List.length_append, List.length_singleton, Nat.add_assoc, Nat.add_comm 1 f]
  fun_induction walkPath root fl fuel cur cs with
  | case1 => intro h; cases h
  | case2 f cur => intro h _; cases h; exact Nat.add_le_add_left (Nat.le_trans hδ (Nat.succ_le_succ (Nat.zero_le f))) _
  | case3 f cur r ih => exact fun h hx => Nat.le_trans (ih h hx) (Nat.add_le_add_left (Nat.le_succ f) _)
  | case4 f cur r ih =>
    have hl : cur.dropLast.length ≤ cur.length := by rw [List.length_dropLast]; exact Nat.sub_le _ _
    exact fun h hx => Nat.le_trans (ih h hx) (Nat.add_le_add hl (Nat.le_succ f))
  | case5 => intro h; cases h
  | case6 => intro h; cases h
  | case7 f cur m r t hg hr =>
    intro h hx
    cases h
    rw [hg] at hx
    cases hx
    exact Nat.le_trans (Nat.le_of_eq (one_more cur m 0)) (Nat.add_le_add_left (Nat.succ_le_succ (Nat.zero_le f)) _)
  | case8 f cur m r t hg hr ih =>
    have hl : (if t.abs then [] else cur).length ≤ cur.length := by split <;> first | exact Nat.zero_le _ | exact Nat.le_refl _
    exact fun h hx => Nat.le_trans (ih h hx) (Nat.add_le_add hl (Nat.le_succ f))
  | case9 f cur m r es hg ih => exact fun h hx => one_more cur m f ▸ ih h hx
  | case10 f cur m r y hnl hnd hg hr =>
    intro h hx
    cases h
    rw [hg] at hx
    cases hx
    rw [isDir_false_of hnd]
    exact Nat.le_trans (Nat.le_of_eq (one_more cur m 0)) (Nat.add_le_add_left (Nat.succ_le_succ (Nat.zero_le f)) _)
  | case11 => intro h; cases h

theorem walkPath_add_fuel (root : Node) (fl : Bool) (k : Nat) (f : Nat) (cur : List Name) (cs : List Comp)
    (c : List Name) : walkPath root fl f cur cs = .found c → walkPath root fl (f + k) cur cs = .found c := by
  fun_induction walkPath root fl f cur cs with
  | case1 => intro h; cases h
  | case2 f cur => intro h; rw [Nat.succ_add]; exact h
  | case3 f cur r ih => intro h; rw [Nat.succ_add]; exact ih h
  | case4 f cur r ih => intro h; rw [Nat.succ_add]; exact ih h
  | case5 => intro h; cases h
  | case6 => intro h; cases h
  | case7 f cur m r t hg hr => intro h; rw [Nat.succ_add, walkPath_name_link fl _ r hg, if_pos hr]; exact h
  | case8 f cur m r t hg hr ih => intro h; rw [Nat.succ_add, walkPath_name_link fl _ r hg, if_neg hr]; exact ih h
  | case9 f cur m r es hg ih => intro h; rw [Nat.succ_add, walkPath_name_dir fl _ r hg]; exact ih h
  | case10 f cur m r y hnl hnd hg hr =>
    intro h
    rw [Nat.succ_add, walkPath_name_leaf fl _ r hg (isLink_false_of hnl) (isDir_false_of hnd), if_pos hr]
    exact h
  | case11 => intro h; cases h

theorem walkPath_mono (root : Node) (fl : Bool) (f1 : Nat) (cur : List Name) (cs : List Comp) (c : List Name)
    (f2 : Nat) (h : walkPath root fl f1 cur cs = .found c) (hle : f1 ≤ f2) :
    walkPath root fl f2 cur cs = .found c := by
  rw [← Nat.add_sub_cancel' hle]
  exact walkPath_add_fuel root fl (f2 - f1) f1 cur cs c h

/-- A successful walk over `cs1 ++ cs2` (`cs2` not empty) passes through the place `c1` that `cs1` alone resolves
to with all links followed, and goes on from there over `cs2` with fuel `f'`; the fuel spent on `cs1` is at least
the depth gained.  Induction along the walk over `cs1`: since `cs2` follows, no component of `cs1` is the last one,
so every link is followed and nothing can be missing. -/
theorem walkPath_split (root : Node) (fl : Bool) (cs2 : List Comp) (hne : cs2 ≠ []) (fuel : Nat) (cur : List Name)
    (cs1 : List Comp) (c : List Name) :
    walkPath root fl fuel cur (cs1 ++ cs2) = .found c →
      ∃ c1 f', walkPath root true fuel cur cs1 = .found c1 ∧ walkPath root fl f' c1 cs2 = .found c ∧
        f' + c1.length ≤ fuel + cur.length := by
  have hre : ∀ r : List Comp, (r ++ cs2).isEmpty = false := by
    intro r
    cases r with
    | cons a b => rfl
    | nil =>
      cases cs2 with
      | nil => exact absurd rfl hne
      | cons a b => rfl
  -- the fuel bound after a step that spends one unit and moves to `cur'`, not longer than `cur ++ [m]`
  have step : ∀ {f' c1 f : Nat} {cur' cur : Nat}, f' + c1 ≤ f + cur' → cur' ≤ cur + 1 → f' + c1 ≤ f + 1 + cur :=
    fun h1 h2 => Nat.le_trans h1 (by rw [Nat.add_assoc, Nat.add_comm 1]; exact Nat.add_le_add_left h2 _)
  fun_induction walkPath root true fuel cur cs1 with
  | case1 => intro h; cases h
  | case2 f cur => exact fun h => ⟨cur, f + 1, rfl, h, Nat.le_refl _⟩
  | case3 f cur r ih =>
    intro h
    obtain ⟨c1, f', h1, h2, h3⟩ := ih h
    exact ⟨c1, f', h1, h2, step h3 (Nat.le_succ _)⟩
  | case4 f cur r ih =>
    intro h
    obtain ⟨c1, f', h1, h2, h3⟩ := ih h
    exact ⟨c1, f', h1, h2, step h3 (by rw [List.length_dropLast]; exact Nat.le_trans (Nat.sub_le _ _) (Nat.le_succ _))⟩
  | case5 f cur m r hg hr =>
    intro h
    rw [List.cons_append, walkPath_name_none fl f _ hg, hre] at h
    cases h
  | case6 f cur m r hg hr =>
    intro h
    rw [List.cons_append, walkPath_name_none fl f _ hg, hre] at h
    cases h
  | case7 f cur m r t hg hr => simp at hr
  | case8 f cur m r t hg hr ih =>
    intro h
    rw [List.cons_append, walkPath_name_link fl f _ hg, hre, Bool.false_and, if_neg Bool.false_ne_true,
      ← List.append_assoc] at h
    obtain ⟨c1, f', h1, h2, h3⟩ := ih h
    have hl : (if t.abs then [] else cur).length ≤ cur.length + 1 := by
      split
      · exact Nat.zero_le _
      · exact Nat.le_succ _
    exact ⟨c1, f', h1, h2, step h3 hl⟩
  | case9 f cur m r es hg ih =>
    intro h
    rw [List.cons_append, walkPath_name_dir fl f _ hg] at h
    obtain ⟨c1, f', h1, h2, h3⟩ := ih h
    exact ⟨c1, f', h1, h2, step h3 (by rw [List.length_append, List.length_singleton]; exact Nat.le_refl _)⟩
  | case10 f cur m r y hnl hnd hg hr =>
    intro h
    rw [List.cons_append, walkPath_name_leaf fl f _ hg (isLink_false_of hnl) (isDir_false_of hnd), hre] at h
    cases h
  | case11 f cur m r y hnl hnd hg hr =>
    intro h
    rw [List.cons_append, walkPath_name_leaf fl f _ hg (isLink_false_of hnl) (isDir_false_of hnd), hre] at h
    cases h

theorem walkPath_last_nofollow (root : Node) (fuel : Nat) (cur : List Name) (m : Name) (c : List Name)
    (h : walkPath root false fuel cur [.name m] = .found c) : c = cur ++ [m] := by
  cases fuel with
  | zero => cases h
  | succ f =>
    cases hnode : root.getAt (cur ++ [m]) with
    | none => rw [walkPath_name_none false f [] hnode] at h; cases h
    | some y =>
      cases y with
      | link t => rw [walkPath_name_link false f [] hnode] at h; cases h; rfl
      | dir es =>
        rw [walkPath_name_dir false f [] hnode] at h
        cases f with
        | zero => cases h
        | succ g => cases h; rfl
      | file k => rw [walkPath_name_leaf false f [] hnode rfl rfl] at h; cases h; rfl
      | special k d => rw [walkPath_name_leaf false f [] hnode rfl rfl] at h; cases h; rfl

theorem walkPath_through_dirs (root : Node) (fl : Bool) (rest : List Comp) (ns : List Name) (fuel : Nat)
    (cur : List Name) (hd : ∀ p, p <+: ns → p ≠ [] → ∃ es, root.getAt (cur ++ p) = some (.dir es))
    (hf : ns.length ≤ fuel) :
    walkPath root fl fuel cur (ns.map .name ++ rest) = walkPath root fl (fuel - ns.length) (cur ++ ns) rest := by
  induction ns generalizing fuel cur with
  | nil => rw [List.append_nil]; rfl
  | cons n r ih =>
    cases fuel with
    | zero => cases hf
    | succ f =>
      obtain ⟨es, hes⟩ := hd [n] (List.cons_prefix_cons.2 ⟨rfl, List.nil_prefix⟩) (List.cons_ne_nil _ _)
      rw [List.map_cons, List.cons_append, walkPath_name_dir fl f _ hes,
        ih f (cur ++ [n])
          (fun p hp _ => by
            rw [List.append_assoc]
            exact hd (n :: p) (List.cons_prefix_cons.2 ⟨rfl, hp⟩) (List.cons_ne_nil _ _))
          (Nat.le_of_succ_le_succ hf),
        List.length_cons, Nat.succ_sub_succ, List.append_assoc]
      rfl

/-- A path that designates an existing object resolves to it, given one unit of fuel per name and one more to stop
at a directory; a link at the very end only when it is not followed. -/
theorem walkPath_of_getAt (root : Node) (fl : Bool) (x : Node) (hfl : fl = true → x.isLink = false)
    (ns : List Name) (fuel : Nat) (cur : List Name) (hf : ns.length + (if x.isDir then 1 else 0) ≤ fuel)
    (hpos : 0 < fuel) (hx : root.getAt (cur ++ ns) = some x) :
    walkPath root fl fuel cur (ns.map .name) = .found (cur ++ ns) := by
  induction ns generalizing fuel cur with
  | nil =>
    cases fuel with
    | zero => cases hpos
    | succ f => rw [List.append_nil]; rfl
  | cons n r ih =>
    cases fuel with
    | zero => cases hpos
    | succ f =>
      have hx' : (root.getAt (cur ++ [n])).bind (fun y => y.getAt r) = some x := by
        rw [← Node.getAt_append, List.append_assoc]; exact hx
      rw [List.map_cons]
      cases hg : root.getAt (cur ++ [n]) with
      | none => rw [hg] at hx'; cases hx'
      | some y =>
        rw [hg, Option.bind_some] at hx'
        cases r with
        | nil =>
          rw [getAt_nil] at hx'
          cases hx'
          rw [List.map_nil]
          cases x with
          | dir es =>
            rw [walkPath_name_dir fl f [] hg]
            cases f with
            | zero => simp [Node.isDir] at hf
            | succ g => rfl
          | link t =>
            cases fl with
            | true => cases hfl rfl
            | false => rw [walkPath_name_link false f [] hg]; rfl
          | file k => rw [walkPath_name_leaf fl f [] hg rfl rfl]; rfl
          | special k d => rw [walkPath_name_leaf fl f [] hg rfl rfl]; rfl
        | cons m r' =>
          obtain ⟨es, _, rfl, _, _⟩ := Node.getAt_cons_some hx'
          have hf' : (m :: r').length + (if x.isDir then 1 else 0) ≤ f := Nat.le_of_succ_le_succ (by
            rw [List.length_cons, Nat.succ_add] at hf; exact hf)
          have hpos' : 0 < f := Nat.lt_of_lt_of_le (Nat.succ_pos _) (by
            rw [List.length_cons, Nat.succ_add] at hf'; exact hf')
          rw [walkPath_name_dir fl f _ hg, ih f (cur ++ [n]) hf' hpos' (by rw [List.append_assoc]; exact hx),
            List.append_assoc]
          rfl

/-- the absolute path spelled by the names `ns`, without `.`, `..` or a trailing slash -/
def plainPath (ns : List Name) : RPath := ⟨true, ns.map .name, false⟩

theorem comps_eq_map_names (a b : Bool) (l : List Comp) (h : ∀ c ∈ l, ∃ n, c = .name n) :
    l = (RPath.names ⟨a, l, b⟩).map .name := by
  induction l with
  | nil => rfl
  | cons c r ih =>
    obtain ⟨n, hn⟩ := h c List.mem_cons_self
    subst hn
    have := ih (fun c hc => h c (List.mem_cons_of_mem _ hc))
    simp only [RPath.names] at this ⊢
    simp only [List.filterMap_cons, List.map_cons]
    rw [← this]

/-- an absolute path spelled with names only (no `.`, `..`, trailing slash) -/
def L0.NamesOnly (t : RPath) : Prop := t.abs = true ∧ t.trail = false ∧ ∀ c ∈ t.comps, ∃ n, c = .name n

theorem eq_plainPath {t : RPath} (h : L0.NamesOnly t) : t = plainPath t.names := by
  obtain ⟨ha, ht, hc⟩ := h
  cases t with
  | mk abs comps trail =>
    simp only at ha ht hc
    subst ha; subst ht
    simp only [plainPath]
    rw [← comps_eq_map_names true false comps hc]

theorem plainTarget_eq (fs : Fs) (t : RPath) (hp : PlainTarget fs t) : t = plainPath t.names :=
  eq_plainPath ⟨hp.1, hp.2.1, hp.2.2.1⟩

/-- no symbolic link strictly above `ns` -/
def NoLinkAbove (root : Node) (ns : List Name) : Prop :=
  ∀ p, p <+: ns → p ≠ ns → ∀ tg, root.getAt p ≠ some (.link tg)

/-- no symbolic link at or above `ns` -/
def NoLinkUpto (root : Node) (ns : List Name) : Prop :=
  ∀ p, p <+: ns → ∀ tg, root.getAt p ≠ some (.link tg)

theorem NoLinkUpto.above {root : Node} {ns : List Name} (h : NoLinkUpto root ns) : NoLinkAbove root ns :=
  fun p hp _ => h p hp

theorem NoLinkUpto.prefix {root : Node} {ns p : List Name} (h : NoLinkUpto root ns) (hp : p <+: ns) :
    NoLinkUpto root p :=
  fun q hq => h q (List.IsPrefix.trans hq hp)

/-- `getAt` never passes through a link: above an existing object there is none -/
theorem NoLinkAbove.of_getAt {r : Node} {ns : List Name} {x : Node} (h : r.getAt ns = some x) : NoLinkAbove r ns := by
  intro p hp hne tg hg
  obtain ⟨s, rfl⟩ := hp
  rw [Node.getAt_append, hg] at h
  cases s with
  | nil => exact hne (List.append_nil p).symm
  | cons a s' => cases h

/-- the shapes a resolution of `plainPath ns` can have -/
def PlainRes (ns : List Name) (res : Res) : Prop :=
  res = .found ns ∨ (∃ par n, res = .missing par n ∧ par ++ [n] = ns) ∨ ∃ e, res = .err e

theorem PlainRes.found_eq {ns q : List Name} (h : PlainRes ns (.found q)) : q = ns := by
  rcases h with h | ⟨_, _, h, _⟩ | ⟨_, h⟩
  · injection h
  · cases h
  · cases h

theorem PlainRes.missing_eq {ns par : List Name} {n : Name} (h : PlainRes ns (.missing par n)) : par ++ [n] = ns := by
  rcases h with h | ⟨_, _, h, hpn⟩ | ⟨_, h⟩
  · cases h
  · injection h with h1 h2; rw [h1, h2]; exact hpn
  · cases h

/-- the places `walkPath` looks at -/
def walkVisits (root : Node) (followLast : Bool) : (fuel : Nat) → (cur : List Name) → List Comp → List (List Name)
  | 0, _, _ => []
  | _+1, _, [] => []
  | f+1, cur, .cur :: r => walkVisits root followLast f cur r
  | f+1, cur, .parent :: r => walkVisits root followLast f cur.dropLast r
  | f+1, cur, .name n :: r =>
    (cur ++ [n]) :: (match root.getAt (cur ++ [n]) with
    | none => []
    | some (.link t) =>
      if r.isEmpty && !followLast then []
      else walkVisits root followLast f (if t.abs then [] else cur) (t.comps ++ r)
    | some (.dir _) => walkVisits root followLast f (cur ++ [n]) r
    | some _ => [])

theorem mem_walkVisits_head (root : Node) (fl : Bool) (f : Nat) (cur : List Name) (n : Name) (r : List Comp) :
    cur ++ [n] ∈ walkVisits root fl (f + 1) cur (.name n :: r) := by
  rw [walkVisits]
  exact List.mem_cons_self

theorem mem_walkVisits_dir {root : Node} {fl : Bool} {f : Nat} {cur : List Name} {n : Name} {r : List Comp}
    {es : Entries} {v : List Name} (hg : root.getAt (cur ++ [n]) = some (.dir es))
    (hv : v ∈ walkVisits root fl f (cur ++ [n]) r) : v ∈ walkVisits root fl (f + 1) cur (.name n :: r) := by
  rw [walkVisits, hg]
  exact List.mem_cons_of_mem _ hv

theorem mem_walkVisits_link {root : Node} {fl : Bool} {f : Nat} {cur : List Name} {n : Name} {r : List Comp}
    {t : RPath} {v : List Name} (hg : root.getAt (cur ++ [n]) = some (.link t)) (hr : ¬ (r.isEmpty && !fl) = true)
    (hv : v ∈ walkVisits root fl f (if t.abs then [] else cur) (t.comps ++ r)) :
    v ∈ walkVisits root fl (f + 1) cur (.name n :: r) := by
  rw [walkVisits, hg]
  simp only [if_neg hr]
  exact List.mem_cons_of_mem _ hv

/-- same observations at the visited places ⇒ same walk -/
theorem walkPath_agree (r r' : Node) (fl : Bool) (fuel : Nat) (cur : List Name) (cs : List Comp) :
    (∀ v ∈ walkVisits r fl fuel cur cs, obsAt r' v = obsAt r v) →
      walkPath r' fl fuel cur cs = walkPath r fl fuel cur cs := by
  fun_induction walkPath r fl fuel cur cs with
  | case1 => intro _; rfl
  | case2 => intro _; rfl
  | case3 f cur rest ih => exact fun h => ih h
  | case4 f cur rest ih => exact fun h => ih h
  | case5 f cur n rest hg hr =>
    intro h
    have h0 := h _ (mem_walkVisits_head r fl f cur n rest)
    have : r'.getAt (cur ++ [n]) = none := by rw [obsAt, obsAt, hg] at h0; exact Option.map_eq_none_iff.1 h0
    rw [walkPath_name_none fl f rest this, if_pos hr]
  | case6 f cur n rest hg hr =>
    intro h
    have h0 := h _ (mem_walkVisits_head r fl f cur n rest)
    have : r'.getAt (cur ++ [n]) = none := by rw [obsAt, obsAt, hg] at h0; exact Option.map_eq_none_iff.1 h0
    rw [walkPath_name_none fl f rest this, if_neg hr]
  | case7 f cur n rest t hg hr =>
    intro h
    have h0 := h _ (mem_walkVisits_head r fl f cur n rest)
    rw [walkPath_name_link fl f rest ((getAt_link_iff _ _ _).2 (h0.trans ((getAt_link_iff _ _ _).1 hg))), if_pos hr]
  | case8 f cur n rest t hg hr ih =>
    intro h
    have h0 := h _ (mem_walkVisits_head r fl f cur n rest)
    rw [walkPath_name_link fl f rest ((getAt_link_iff _ _ _).2 (h0.trans ((getAt_link_iff _ _ _).1 hg))), if_neg hr]
    exact ih fun v hv => h v (mem_walkVisits_link hg hr hv)
  | case9 f cur n rest es hg ih =>
    intro h
    have h0 := h _ (mem_walkVisits_head r fl f cur n rest)
    obtain ⟨es', hes'⟩ := getAt_dir_of_obs (h0.trans (obsAt_dir hg))
    rw [walkPath_name_dir fl f rest hes']
    exact ih fun v hv => h v (mem_walkVisits_dir hg hv)
  | case10 f cur n rest x hnl hnd hg hr =>
    intro h
    have h0 := h _ (mem_walkVisits_head r fl f cur n rest)
    have hx := getAt_of_obs_leaf (isDir_false_of hnd) (h0.trans (by rw [obsAt, hg]; rfl))
    rw [walkPath_name_leaf fl f rest hx (isLink_false_of hnl) (isDir_false_of hnd), if_pos hr]
  | case11 f cur n rest x hnl hnd hg hr =>
    intro h
    have h0 := h _ (mem_walkVisits_head r fl f cur n rest)
    have hx := getAt_of_obs_leaf (isDir_false_of hnd) (h0.trans (by rw [obsAt, hg]; rfl))
    rw [walkPath_name_leaf fl f rest hx (isLink_false_of hnl) (isDir_false_of hnd), if_neg hr]

/-- a walk over names that meets no link (a link at the very end does not count unless it is followed): the shape of
its result, and that it looks only at the places it passes -/
theorem walkPath_plain (root : Node) (fl : Bool) (ns : List Name) (fuel : Nat) (cur : List Name)
    (hl : ∀ p, p <+: ns → p ≠ [] → p ≠ ns → ∀ tg, root.getAt (cur ++ p) ≠ some (.link tg))
    (hfl : fl = true → ∀ tg, root.getAt (cur ++ ns) ≠ some (.link tg)) :
    PlainRes (cur ++ ns) (walkPath root fl fuel cur (ns.map .name)) ∧
      ∀ v ∈ walkVisits root fl fuel cur (ns.map .name), ∃ p, p <+: ns ∧ v = cur ++ p := by
  induction ns generalizing fuel cur with
  | nil =>
    cases fuel with
    | zero => exact ⟨.inr (.inr ⟨_, rfl⟩), fun v hv => by rw [List.map_nil, walkVisits] at hv; cases hv⟩
    | succ f =>
      exact ⟨.inl (by rw [List.append_nil]; rfl), fun v hv => by rw [List.map_nil, walkVisits] at hv; cases hv⟩
  | cons n r ih =>
    cases fuel with
    | zero => exact ⟨.inr (.inr ⟨_, rfl⟩), fun v hv => by rw [List.map_cons, walkVisits] at hv; cases hv⟩
    | succ f =>
      have hn : [n] <+: n :: r := List.cons_prefix_cons.2 ⟨rfl, List.nil_prefix⟩
      -- the first place is looked at; `rest` is where the walk looks after it
      suffices h : ∀ rest, walkVisits root fl (f + 1) cur (.name n :: r.map .name) = (cur ++ [n]) :: rest →
          PlainRes (cur ++ n :: r) (walkPath root fl (f + 1) cur (.name n :: r.map .name)) ∧
            ∀ v ∈ rest, ∃ p, p <+: n :: r ∧ v = cur ++ p by
        rw [List.map_cons]
        obtain ⟨h1, h2⟩ := h _ (by rw [walkVisits])
        refine ⟨h1, fun v hv => ?_⟩
        rw [walkVisits] at hv
        rcases List.mem_cons.1 hv with rfl | hv
        · exact ⟨[n], hn, rfl⟩
        · exact h2 v hv
      intro rest hrest
      rw [walkVisits, List.cons.injEq] at hrest
      replace hrest := hrest.2
      cases hg : root.getAt (cur ++ [n]) with
      | none =>
        rw [hg] at hrest
        subst hrest
        rw [walkPath_name_none fl f _ hg]
        refine ⟨?_, fun v hv => by cases hv⟩
        cases r with
        | nil => exact .inr (.inl ⟨cur, n, rfl, rfl⟩)
        | cons m r' => exact .inr (.inr ⟨_, rfl⟩)
      | some y =>
        rw [hg] at hrest
        cases y with
        | dir es =>
          subst hrest
          rw [walkPath_name_dir fl f _ hg]
          have := ih f (cur ++ [n])
            (fun p hp _ hpr => by
              rw [List.append_assoc]
              exact hl (n :: p) (List.cons_prefix_cons.2 ⟨rfl, hp⟩) (List.cons_ne_nil _ _)
                (fun h => hpr (List.cons.inj h).2))
            (fun h => by rw [List.append_assoc]; exact hfl h)
          rw [List.append_assoc] at this
          refine ⟨this.1, fun v hv => ?_⟩
          obtain ⟨p, hp, rfl⟩ := this.2 v hv
          exact ⟨n :: p, List.cons_prefix_cons.2 ⟨rfl, hp⟩, by rw [List.append_assoc]; rfl⟩
        | link t =>
          rw [walkPath_name_link fl f _ hg]
          cases r with
          | cons m r' =>
            exact absurd hg (hl [n] hn (List.cons_ne_nil _ _) (fun h => by cases h) t)
          | nil =>
            cases fl with
            | false => subst hrest; exact ⟨.inl rfl, fun v hv => by cases hv⟩
            | true => exact absurd hg (hfl rfl t)
        | file k =>
          subst hrest
          rw [walkPath_name_leaf fl f _ hg rfl rfl]
          refine ⟨?_, fun v hv => by cases hv⟩
          cases r with
          | nil => exact .inl rfl
          | cons m r' => exact .inr (.inr ⟨_, rfl⟩)
        | special k d =>
          subst hrest
          rw [walkPath_name_leaf fl f _ hg rfl rfl]
          refine ⟨?_, fun v hv => by cases hv⟩
          cases r with
          | nil => exact .inl rfl
          | cons m r' => exact .inr (.inr ⟨_, rfl⟩)

theorem resolve_notrail (fs : Fs) (p : RPath) (fl : Bool) (ht : p.trail = false) :
    fs.resolve p fl =
      if p.comps.isEmpty && !p.abs then .err .ENOENT
      else walkPath fs.root fl resolveFuel (if p.abs then [] else fs.cwd) p.comps := by
  unfold Fs.resolve
  rw [ht, Bool.or_false]
  split
  · rfl
  · split
    · rename_i q hq
      rw [if_neg Bool.false_ne_true]
      exact hq.symm
    · rfl

theorem resolve_plainPath (fs : Fs) (ns : List Name) (fl : Bool) :
    fs.resolve (plainPath ns) fl = walkPath fs.root fl resolveFuel [] (ns.map .name) := by
  rw [resolve_notrail fs (plainPath ns) fl rfl, if_neg (by simp [plainPath])]
  rfl

theorem resolve_found_walk {fs : Fs} {p : RPath} {fl : Bool} {c : List Name} (h : fs.resolve p fl = .found c) :
    walkPath fs.root (fl || p.trail) resolveFuel (if p.abs then [] else fs.cwd) p.comps = .found c := by
  unfold Fs.resolve at h
  split at h
  · cases h
  · split at h
    · rename_i q hq
      split at h
      · split at h
        · rw [hq, h]
        · cases h
      · rw [hq, h]
    · rename_i r hr
      rw [h] at hr
      exact absurd rfl (hr c)

theorem resolve_missing_walk {fs : Fs} {p : RPath} {fl : Bool} {par : List Name} {n : Name}
    (h : fs.resolve p fl = .missing par n) :
    walkPath fs.root (fl || p.trail) resolveFuel (if p.abs then [] else fs.cwd) p.comps = .missing par n := by
  unfold Fs.resolve at h
  split at h
  · cases h
  · split at h
    · split at h
      · split at h <;> cases h
      · cases h
    · exact h

theorem resolve_missing (fs : Fs) (p : RPath) (fl : Bool) (par : List Name) (n : Name)
    (h : fs.resolve p fl = .missing par n) : fs.root.getAt (par ++ [n]) = none :=
  (walkPath_missing _ _ _ _ _ _ _ (resolve_missing_walk h)).1

theorem parentDir_of_missing (f : Fs) (p : RPath) (fl : Bool) (par : List Name) (n : Name)
    (hroot : f.root.isDir = true) (hp : p.abs = true) (h : f.resolve p fl = .missing par n) :
    ParentDir f.root (par ++ [n]) := by
  have hw := resolve_missing_walk h
  rw [if_pos hp] at hw
  rw [ParentDir, List.dropLast_concat]
  exact ((walkPath_missing _ _ _ _ _ _ _ hw).2 (.inl rfl)).dir hroot

theorem resolve_nofollow (fs : Fs) (p : RPath) :
    (∃ q tg, fs.resolve p false = .found q ∧ fs.root.getAt q = some (.link tg)) ∨
    fs.resolve p true = fs.resolve p false := by
  cases ht : p.trail with
  | true => right; unfold Fs.resolve; rw [ht]; rfl
  | false =>
    rw [resolve_notrail fs p true ht, resolve_notrail fs p false ht]
    split
    · exact .inr rfl
    · exact walkPath_nofollow fs.root resolveFuel (if p.abs then [] else fs.cwd) p.comps

theorem lstat_none_of_lexists (fs : Fs) (p : RPath) (h : fs.lexists p = false) : fs.lstat p = none := by
  simpa [Fs.lexists] using h

theorem found_none_of_lexists (fs : Fs) (p : RPath) (h : fs.lexists p = false) (q : List Name)
    (hq : fs.resolve p false = .found q) : fs.root.getAt q = none := by
  have := lstat_none_of_lexists fs p h
  simpa [Fs.lstat, hq] using this

theorem resolve_follow_of_lexists (fs : Fs) (p : RPath) (h : fs.lexists p = false) :
    fs.resolve p true = fs.resolve p false := by
  rcases resolve_nofollow fs p with ⟨q, tg, hq, hl⟩ | hr
  · rw [found_none_of_lexists fs p h q hq] at hl; cases hl
  · exact hr

theorem exists_false_of_lexists (fs : Fs) (p : RPath) (h : fs.lexists p = false) : fs.exists p = false := by
  have hn : fs.stat p = none := by
    unfold Fs.stat
    rw [resolve_follow_of_lexists fs p h]
    cases hr : fs.resolve p false with
    | found q => simp [found_none_of_lexists fs p h q hr]
    | missing par n => rfl
    | err e => rfl
  simp [Fs.exists, hn]

theorem stat_found {fs : Fs} {p : RPath} {c : List Name} (hr : fs.resolve p true = .found c) :
    fs.stat p = (fs.root.getAt c).map (c, ·) := by
  unfold Fs.stat
  rw [hr]

theorem lstat_found {fs : Fs} {p : RPath} {c : List Name} (hr : fs.resolve p false = .found c) :
    fs.lstat p = (fs.root.getAt c).map (c, ·) := by
  unfold Fs.lstat
  rw [hr]

theorem stat_some {fs : Fs} {p : RPath} {c : List Name} {n : Node} (h : fs.stat p = some (c, n)) :
    fs.resolve p true = .found c ∧ fs.root.getAt c = some n := by
  cases hr : fs.resolve p true with
  | missing par m => unfold Fs.stat at h; rw [hr] at h; cases h
  | err e => unfold Fs.stat at h; rw [hr] at h; cases h
  | found c0 =>
    rw [stat_found hr] at h
    cases hg : fs.root.getAt c0 with
    | none => rw [hg] at h; cases h
    | some y => rw [hg] at h; cases h; exact ⟨rfl, hg⟩

theorem lstat_some {fs : Fs} {p : RPath} {c : List Name} {n : Node} (h : fs.lstat p = some (c, n)) :
    fs.resolve p false = .found c ∧ fs.root.getAt c = some n := by
  cases hr : fs.resolve p false with
  | missing par m => unfold Fs.lstat at h; rw [hr] at h; cases h
  | err e => unfold Fs.lstat at h; rw [hr] at h; cases h
  | found c0 =>
    rw [lstat_found hr] at h
    cases hg : fs.root.getAt c0 with
    | none => rw [hg] at h; cases h
    | some y => rw [hg] at h; cases h; exact ⟨rfl, hg⟩

theorem stat_none_of_walk_err (fs : Fs) (p : RPath) (e : Errno) (hne : (p.comps.isEmpty && !p.abs) = false)
    (h : walkPath fs.root (true || p.trail) resolveFuel (if p.abs then [] else fs.cwd) p.comps = .err e) :
    fs.stat p = none := by
  unfold Fs.stat Fs.resolve
  rw [hne, h]
  rfl

theorem stat_of_resolve {fs : Fs} {p : RPath} {c : List Name} {n : Node} (hr : fs.resolve p true = .found c)
    (hg : fs.root.getAt c = some n) : fs.stat p = some (c, n) := by
  rw [stat_found hr, hg]
  rfl

theorem lstat_of_resolve {fs : Fs} {p : RPath} {c : List Name} {n : Node} (hr : fs.resolve p false = .found c)
    (hg : fs.root.getAt c = some n) : fs.lstat p = some (c, n) := by
  rw [lstat_found hr, hg]
  rfl

theorem resolve_follow_nonlink (fs : Fs) (hroot : fs.root.isLink = false)
    (hcwd : GoodCur fs.root fs.cwd) (p : RPath) (c : List Name)
    (h : fs.resolve p true = .found c) : ∃ n, fs.root.getAt c = some n ∧ n.isLink = false := by
  have hw := resolve_found_walk h
  rw [Bool.true_or] at hw
  refine walkPath_follow_nonlink fs.root hroot _ _ _ c ?_ hw
  split
  · exact .inl rfl
  · exact hcwd

theorem plainRes_nofollow (f : Fs) (ns : List Name) (hl : NoLinkAbove f.root ns) :
    PlainRes ns (f.resolve (plainPath ns) false) := by
  rw [resolve_plainPath]
  exact (walkPath_plain f.root false ns resolveFuel [] (fun p hp _ hne => hl p hp hne) (fun h => by cases h)).1

theorem plainRes_follow (f : Fs) (ns : List Name) (hl : NoLinkUpto f.root ns) :
    PlainRes ns (f.resolve (plainPath ns) true) := by
  rw [resolve_plainPath]
  exact (walkPath_plain f.root true ns resolveFuel [] (fun p hp _ _ => hl p hp)
    (fun _ => hl ns (List.prefix_refl _))).1

/-- `lstat` of a canonicalized path never sees a link -/
theorem lstat_canonical_nonlink (fs : Fs) (hroot : fs.root.isLink = false)
    (hcwd : GoodCur fs.root fs.cwd) (p q : RPath)
    (h : fs.canonicalize p = .ok q) (c : List Name) (n : Node) (hl : fs.lstat q = some (c, n)) :
    n.isLink = false := by
  unfold Fs.canonicalize at h
  cases hres : fs.resolve p true with
  | missing par m => rw [hres] at h; cases h
  | err e => rw [hres] at h; cases h
  | found c0 =>
    rw [hres] at h
    cases h
    obtain ⟨x, hx, hxl⟩ := resolve_follow_nonlink fs hroot hcwd p c0 hres
    obtain ⟨hr, hg⟩ := lstat_some hl
    -- the canonical path has no link above it, so it resolves to itself
    obtain rfl : c = c0 := (hr ▸ plainRes_nofollow fs c0 (NoLinkAbove.of_getAt hx)).found_eq
    rw [hx] at hg
    cases hg
    exact hxl

theorem resolve_of_getAt (fs : Fs) (ns : List Name) (fl : Bool) (x : Node)
    (hlen : ns.length + (if x.isDir then 1 else 0) ≤ 256) (hx : fs.root.getAt ns = some x)
    (hfl : fl = true → x.isLink = false) : fs.resolve (plainPath ns) fl = .found ns := by
  rw [resolve_plainPath]
  exact walkPath_of_getAt fs.root fl x hfl ns resolveFuel [] hlen (by decide) hx

theorem lstat_of_getAt (fs : Fs) (ns : List Name) (x : Node) (hlen : ns.length + (if x.isDir then 1 else 0) ≤ 256)
    (hx : fs.root.getAt ns = some x) : fs.lstat (plainPath ns) = some (ns, x) :=
  lstat_of_resolve (resolve_of_getAt fs ns false x hlen hx (fun h => by cases h)) hx

theorem stat_of_getAt (fs : Fs) (ns : List Name) (x : Node) (hlen : ns.length + (if x.isDir then 1 else 0) ≤ 256)
    (hx : fs.root.getAt ns = some x) (hnl : x.isLink = false) : fs.stat (plainPath ns) = some (ns, x) :=
  stat_of_resolve (resolve_of_getAt fs ns true x hlen hx (fun _ => hnl)) hx

theorem le_256_of_lt {n : Nat} {b : Bool} (h : n < 256) : n + (if b then 1 else 0) ≤ 256 := by
  cases b with
  | false => exact Nat.le_of_lt h
  | true => exact h

/-- what `stat` of an absolute path finds: not a link; `canonicalize` gives the plain path of the place
found, and `lstat`/`stat` of that canonical path give back the very node -/
theorem stat_canon (fs : Fs) (hroot : fs.root.isLink = false) (p : RPath) (hp : p.abs = true) (c : List Name)
    (n : Node) (h : fs.stat p = some (c, n)) :
    n.isLink = false ∧ fs.root.getAt c = some n ∧ c.length + (if n.isDir then 1 else 0) ≤ 256 ∧
    fs.canonicalize p = .ok (plainPath c) ∧
    fs.lstat (plainPath c) = some (c, n) ∧ fs.stat (plainPath c) = some (c, n) := by
  obtain ⟨hr, hg⟩ := stat_some h
  have hw := resolve_found_walk hr
  rw [Bool.true_or, if_pos hp] at hw
  obtain ⟨n', hg', hnl⟩ := walkPath_follow_nonlink fs.root hroot _ _ _ c (.inl rfl) hw
  rw [hg] at hg'
  cases hg'
  have hb : c.length + (if n.isDir then 1 else 0) ≤ 256 := by
    have := walkPath_found_bound fs.root true _ _ _ c n hw hg
    rw [List.length_nil, Nat.zero_add] at this
    exact this
  refine ⟨hnl, hg, hb, ?_, lstat_of_getAt fs c n hb hg, stat_of_getAt fs c n hb hg hnl⟩
  unfold Fs.canonicalize
  rw [hr]
  rfl

theorem stat_of_lstat_nonlink (fs : Fs) (p : RPath) (c : List Name) (n : Node)
    (h : fs.lstat p = some (c, n)) (hnl : n.isLink = false) : fs.stat p = some (c, n) := by
  obtain ⟨hr, hg⟩ := lstat_some h
  refine stat_of_resolve ?_ hg
  rcases resolve_nofollow fs p with ⟨q, tg, hq, hl⟩ | he
  · rw [hr] at hq
    cases hq
    rw [hg] at hl
    cases hl
    cases hnl
  · rw [he]; exact hr

/-- the entry `m` seen through the spelled path `p/m` is the entry `m` of the directory `p` resolves to -/
theorem lstat_child (fs : Fs) (p : RPath) (cp lc : List Name) (m : Name) (es : Entries) (x : Node)
    (hs : fs.stat p = some (cp, .dir es))
    (hl : fs.lstat ⟨p.abs, p.comps ++ [.name m], false⟩ = some (lc, x)) :
    lc = cp ++ [m] ∧ entGet es m = some x := by
  obtain ⟨hr, hg⟩ := stat_some hs
  obtain ⟨hr2, hg2⟩ := lstat_some hl
  have hr := resolve_found_walk hr
  have hr2 := resolve_found_walk hr2
  rw [Bool.true_or] at hr
  simp only [Bool.or_false] at hr2
  obtain ⟨c1, f', h1, h2, _⟩ := walkPath_split fs.root false [.name m] (by simp) _ _ _ _ hr2
  rw [hr] at h1
  injection h1 with h1
  subst h1
  have hlc := walkPath_last_nofollow fs.root f' cp m lc h2
  subst hlc
  refine ⟨rfl, ?_⟩
  rw [Node.getAt_append, hg] at hg2
  simpa [getAt_dir_cons] using hg2

/-- a symbolic link reached through a spelled path leads where the link at its canonical place leads -/
theorem stat_at_link_place (fs : Fs) (path loc cp : List Name) (t : RPath)
    (node : Node)
    (hl : fs.lstat (plainPath path) = some (loc, .link t))
    (hs : fs.stat (plainPath path) = some (cp, node)) :
    fs.stat (plainPath loc) = some (cp, node) := by
  obtain ⟨hr, hg⟩ := stat_some hs
  obtain ⟨hr2, hg2⟩ := lstat_some hl
  rw [resolve_plainPath] at hr hr2
  rcases List.eq_nil_or_concat path with h0 | ⟨pre, last, h0⟩
  · subst h0
    simp only [List.map_nil, resolveFuel, walkPath, Res.found.injEq] at hr2
    subst hr2
    exact hs
  · simp only [List.concat_eq_append] at h0
    subst h0
    rw [List.map_append] at hr hr2
    obtain ⟨c1, f1, a1, a2, _⟩ := walkPath_split fs.root false [.name last] (by simp) _ _ _ _ hr2
    obtain ⟨c1', f2, b1, b2, b3⟩ := walkPath_split fs.root true [.name last] (by simp) _ _ _ _ hr
    rw [a1] at b1
    injection b1 with b1
    subst b1
    have hloc := walkPath_last_nofollow fs.root f1 c1 last loc a2
    subst hloc
    simp only [List.length_nil, Nat.add_zero] at b3
    have hthrough := walkPath_through_dirs fs.root true [.name last] c1 resolveFuel [] (by
      intro p hp hpne
      obtain ⟨s, hs'⟩ := hp
      have : fs.root.getAt (p ++ (s ++ [last])) = some (.link t) := by
        rw [← List.append_assoc, hs']; exact hg2
      simpa using getAt_append_dir this (by simp)) (Nat.le_trans (Nat.le_add_left _ _) b3)
    simp only [List.nil_append] at hthrough
    have hw : walkPath fs.root true resolveFuel [] ((c1 ++ [last]).map .name) = .found cp := by
      rw [List.map_append]
      simp only [List.map_cons, List.map_nil]
      rw [hthrough]
      exact walkPath_mono fs.root true f2 c1 _ cp _ b2 (Nat.le_sub_of_add_le b3)
    refine stat_of_resolve ?_ hg
    rw [resolve_plainPath, hw]

theorem walkPath_obs {r r' : Node} (h : SameObs r r') (fl : Bool) (fuel : Nat) (cur : List Name) (cs : List Comp) :
    walkPath r fl fuel cur cs = walkPath r' fl fuel cur cs :=
  (walkPath_agree r r' fl fuel cur cs fun v _ => (h v).symm).symm

theorem resolve_obs {f f' : Fs} (hc : f.cwd = f'.cwd) (h : SameObs f.root f'.root) (p : RPath) (fl : Bool) :
    f.resolve p fl = f'.resolve p fl := by
  unfold Fs.resolve
  rw [walkPath_obs h, hc]
  split
  · rfl
  · split
    · rename_i q _
      split
      · rcases obs_rel (h q) with ⟨ha, hb⟩ | ⟨es, es', ha, hb⟩ | ⟨x, hx, ha, hb⟩
        · rw [ha, hb]
        · rw [ha, hb]
        · rw [ha, hb]
      · rfl
    · rfl

end Xcp
