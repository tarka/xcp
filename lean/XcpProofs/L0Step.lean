import XcpProofs.L0Refine
import XcpProofs.FsFrame
/-! # What one step of the concurrent model does, without reference to any invariant

A step hands the head of `todo` over to the workers, or takes one pending operation out and executes it — successfully,
or marking the run failed (`step_forms`, from the five ways a step can go: `L0.Steps`, L0Refine; `step_cases` for file
system and pending operations only).  Hence, for a property `I` of the file system that every successful operation of a
list keeps: `I` holds in every reachable state and after the sequential execution, whatever its exit; and if a
successful operation is never `bad`, a complete run over a list containing `bad` has failed, and its sequential
execution does not exit ok. -/
namespace Xcp.L0

open Xcp

theorem step_forms {c : Cfg} {s s1 : St} {l : Label} (h : step c s l = some s1) :
    (∃ op r, s.todo = op :: r ∧ isSync op = false ∧ s1 = { s with todo := r, queue := s.queue ++ [op] }) ∨
    ∃ op l1 l2, s.queue ++ s.todo = l1 ++ op :: l2 ∧ ((∃ r, s.todo = op :: r) ∨ op ∈ s.queue) ∧
      ((execOp s.fs c op = none ∧ s1.fs = s.fs ∧ s1.failed = true ∧ ∀ y ∈ s1.queue ++ s1.todo, y ∈ l1 ++ l2) ∨
       (execOp s.fs c op = some s1.fs ∧ s1.failed = s.failed ∧ s1.queue ++ s1.todo = l1 ++ l2 ∧
         (∀ y ∈ s1.queue, y ∈ s.queue) ∧ (s.todo = op :: s1.todo ∨ s1.todo = s.todo))) := by
  cases steps_of_step h with
  | sync op r fs' _ htd _ hx =>
    exact .inr ⟨op, s.queue, r, by rw [htd], .inl ⟨r, htd⟩, .inr ⟨hx, rfl, rfl, fun _ hy => hy, .inl htd⟩⟩
  | syncFail op r _ htd _ hx =>
    exact .inr ⟨op, s.queue, r, by rw [htd], .inl ⟨r, htd⟩,
      .inl ⟨hx, rfl, rfl, fun y hy => List.mem_append_left r (by simpa using hy)⟩⟩
  | enqueue op r _ htd hs => exact .inl ⟨op, r, htd, hs, rfl⟩
  | done i op fs' hq hx =>
    obtain ⟨qa, qb, hq1, hq2⟩ := eraseIdx_split s.queue i op hq
    exact .inr ⟨op, qa, qb ++ s.todo, by rw [hq1]; simp, .inr (List.mem_of_getElem? hq),
      .inr ⟨hx, rfl, by simp [hq2], fun y hy => List.mem_of_mem_eraseIdx hy, .inr rfl⟩⟩
  | fail i op hq hx =>
    obtain ⟨qa, qb, hq1, hq2⟩ := eraseIdx_split s.queue i op hq
    exact .inr ⟨op, qa, qb ++ s.todo, by rw [hq1]; simp, .inr (List.mem_of_getElem? hq),
      .inl ⟨hx, rfl, rfl, fun y hy => by simpa [hq2] using hy⟩⟩

theorem step_cases (c : Cfg) (s s1 : St) (l : Label) (h : step c s l = some s1) :
    (s1.fs = s.fs ∧ s1.failed = s.failed ∧ pending s1 = pending s) ∨
    ∃ x pre post, pending s = pre ++ x :: post ∧
      ((execOp s.fs c x = some s1.fs ∧ s1.failed = s.failed ∧ pending s1 = pre ++ post) ∨
        (s1.fs = s.fs ∧ s1.failed = true ∧ ∀ y ∈ pending s1, y ∈ pre ++ post)) := by
  rcases step_forms h with ⟨op, r, htd, _, rfl⟩ | ⟨op, l1, l2, hp, _, hex⟩
  · exact .inl ⟨rfl, rfl, by simp only [pending, htd, List.append_assoc, List.singleton_append]⟩
  · refine .inr ⟨op, l1, l2, hp, ?_⟩
    rcases hex with ⟨_, he, hf, hsub⟩ | ⟨hx, hf, hp1, _⟩
    · exact .inr ⟨he, hf, hsub⟩
    · exact .inl ⟨hx, hf, hp1⟩

theorem step_fs_or_exec (c : Cfg) (s s1 : St) (l : Label) (h : step c s l = some s1) :
    s1.fs = s.fs ∨ ∃ x ∈ pending s, execOp s.fs c x = some s1.fs := by
  rcases step_cases c s s1 l h with ⟨hfs, _⟩ | ⟨x, pre, post, hp, ⟨hx, _⟩ | ⟨hfs, _⟩⟩
  · exact .inl hfs
  · exact .inr ⟨x, by rw [hp]; exact List.mem_append_right _ List.mem_cons_self, hx⟩
  · exact .inl hfs

theorem step_pending_sub (c : Cfg) (s s1 : St) (l : Label) (h : step c s l = some s1) :
    ∀ y ∈ pending s1, y ∈ pending s := by
  intro y hy
  have drop : ∀ (x : Op) (pre post : List Op), y ∈ pre ++ post → y ∈ pre ++ x :: post := fun x pre post hy =>
    (List.mem_append.1 hy).elim (List.mem_append_left _) (fun h => List.mem_append_right _ (List.mem_cons_of_mem x h))
  rcases step_cases c s s1 l h with ⟨_, _, hp⟩ | ⟨x, pre, post, hp, ⟨_, _, hp1⟩ | ⟨_, _, hsub⟩⟩
  · rw [← hp]; exact hy
  · rw [hp]; rw [hp1] at hy; exact drop x pre post hy
  · rw [hp]; exact drop x pre post (hsub y hy)

theorem step_keeps_pending (c : Cfg) (s s1 : St) (l : Label) (h : step c s l = some s1) (b : Op)
    (hb : b ∈ pending s) : s1.failed = true ∨ b ∈ pending s1 ∨ execOp s.fs c b = some s1.fs := by
  rcases step_cases c s s1 l h with ⟨_, _, hp⟩ | ⟨x, pre, post, hp, ⟨hx, _, hp1⟩ | ⟨_, hf, _⟩⟩
  · rw [hp]; exact .inr (.inl hb)
  · rw [hp] at hb
    rw [hp1]
    rcases List.mem_append.1 hb with hb | hb
    · exact .inr (.inl (List.mem_append_left _ hb))
    · rcases List.mem_cons.1 hb with hb | hb
      · rw [hb]; exact .inr (.inr hx)
      · exact .inr (.inl (List.mem_append_right _ hb))
  · exact .inl hf

theorem pending_of_final {s : St} (h : final s = true) : pending s = [] := by
  simp only [final, Bool.and_eq_true, List.isEmpty_iff] at h
  rw [pending, h.1, h.2]
  rfl

/-- a run that has not failed and is not complete can take a step: the walker reaches its next operation, or (the
walker being done) the first queued operation completes -/
theorem unfailed_unfinished_can_step (c : Cfg) (s : St) (hf : s.failed = false) (hn : final s = false) :
    ∃ l s', step c s l = some s' := by
  cases htd : s.todo with
  | cons op r =>
    refine ⟨.walk, ?_⟩
    simp only [step, hf, htd, Bool.false_eq_true, if_false]
    cases isSync op with
    | false => exact ⟨_, rfl⟩
    | true =>
      simp only [if_true]
      cases execOp s.fs c op with
      | none => exact ⟨_, rfl⟩
      | some fs' => exact ⟨_, rfl⟩
  | nil =>
    cases hq : s.queue with
    | nil => simp [final, htd, hq] at hn
    | cons op r =>
      refine ⟨.exec 0, ?_⟩
      simp only [step, hq, List.getElem?_cons_zero]
      cases execOp s.fs c op with
      | none => exact ⟨_, rfl⟩
      | some fs' => exact ⟨_, rfl⟩

/-- … so where every complete run has failed, a run that can go on no further has failed -/
theorem maximal_run_failed (c : Cfg) (s : St) (hcomplete : final s = true → s.failed = true)
    (hmax : ∀ l, step c s l = none) : s.failed = true := by
  cases hf : s.failed with
  | true => rfl
  | false =>
    cases hfin : final s with
    | true => rw [hcomplete hfin] at hf; cases hf
    | false =>
      obtain ⟨l, s', hs'⟩ := unfailed_unfinished_can_step c s hf hfin
      rw [hmax l] at hs'
      cases hs'

section

variable (c : Cfg) (I : Fs → Prop) (ops : List Op)

theorem run_fs_inv (hexec : ∀ g g' x, x ∈ ops → I g → execOp g c x = some g' → I g') :
    ∀ (ls : List Label) (s s' : St), (I s.fs ∧ ∀ x ∈ pending s, x ∈ ops) → run c s ls = some s' →
      I s'.fs ∧ ∀ x ∈ pending s', x ∈ ops := by
  apply run_invariant
  intro s l s1 ⟨hI, hm⟩ h
  refine ⟨?_, fun x hx => hm x (step_pending_sub c s s1 l h x hx)⟩
  rcases step_fs_or_exec c s s1 l h with he | ⟨x, hx, hex⟩
  · rw [he]; exact hI
  · exact hexec _ _ x (hm x hx) hI hex

theorem run_bad_pending (bad : Op)
    (hexec : ∀ g g' x, x ∈ ops → I g → execOp g c x = some g' → x ≠ bad ∧ I g') :
    ∀ (ls : List Label) (s s' : St),
      ((I s.fs ∧ ∀ x ∈ pending s, x ∈ ops) ∧ (s.failed = true ∨ bad ∈ pending s)) → run c s ls = some s' →
      (I s'.fs ∧ ∀ x ∈ pending s', x ∈ ops) ∧ (s'.failed = true ∨ bad ∈ pending s') := by
  apply run_invariant
  intro s l s1 ⟨hIm, hb⟩ h
  refine ⟨run_fs_inv c I ops (fun g g' x hx hI he => (hexec g g' x hx hI he).2) [l] s s1 hIm
    (by simp only [run, h]), ?_⟩
  rcases hb with hf | hb
  · exact .inl (step_failed_sticky c s s1 l h hf)
  · rcases step_keeps_pending c s s1 l h bad hb with hf | hb1 | hex
    · exact .inl hf
    · exact .inr hb1
    · exact absurd rfl (hexec _ _ bad (hIm.2 bad hb) hIm.1 hex).1

theorem complete_run_failed_of_bad (bad : Op)
    (hexec : ∀ g g' x, x ∈ ops → I g → execOp g c x = some g' → x ≠ bad ∧ I g')
    (fs : Fs) (hI : I fs) (hbad : bad ∈ ops) (ls : List Label) (s : St) (hrun : run c (init fs ops) ls = some s)
    (hfin : final s = true) : s.failed = true := by
  rcases (run_bad_pending c I ops bad hexec ls (init fs ops) s ⟨⟨hI, fun _ h => h⟩, .inr hbad⟩ hrun).2 with hf | hb
  · exact hf
  · rw [pending_of_final hfin] at hb; cases hb

theorem execOps_fs_inv (hexec : ∀ g g' x, x ∈ ops → I g → execOp g c x = some g' → I g') :
    ∀ (l : List Op), (∀ x ∈ l, x ∈ ops) → ∀ g : Fs, I g → I (execOps g c l).fs := by
  intro l
  induction l with
  | nil => intro _ g hg; exact hg
  | cons op r ih =>
    intro hl g hg
    simp only [execOps]
    cases hx : execOp g c op with
    | none => exact hg
    | some g' =>
      exact ih (fun x hx' => hl x (List.mem_cons_of_mem _ hx')) g' (hexec g g' op (hl op List.mem_cons_self) hg hx)

theorem execOps_err_of_bad (bad : Op)
    (hexec : ∀ g g' x, x ∈ ops → I g → execOp g c x = some g' → x ≠ bad ∧ I g') :
    ∀ (l : List Op) (g : Fs), I g → (∀ x ∈ l, x ∈ ops) → bad ∈ l → (execOps g c l).exit = .err := by
  intro l
  induction l with
  | nil => intro g _ _ hb; cases hb
  | cons op r ih =>
    intro g hI hl hb
    simp only [execOps]
    cases hx : execOp g c op with
    | none => rfl
    | some g' =>
      obtain ⟨hne, hI'⟩ := hexec g g' op (hl op List.mem_cons_self) hI hx
      refine ih g' hI' (fun x h => hl x (List.mem_cons_of_mem _ h)) ?_
      cases hb with
      | head => exact absurd rfl hne
      | tail _ h => exact h

end

theorem run_preserved {c : Cfg} {P : St → Prop} (hstep : ∀ s l s1, P s → step c s l = some s1 → P s1)
    (habs : ∀ s, P s → ∀ x ∈ pending s, ∀ t, opTarget x = some t → s.fs.lexists t = false) (s0 : St) :
    ∀ (ls : List Label) (s s' : St), P s ∧ Preserved s0.fs.root s.fs.root → run c s ls = some s' →
      P s' ∧ Preserved s0.fs.root s'.fs.root := by
  apply run_invariant
  intro s l s1 ⟨hP, hpres⟩ h
  refine ⟨hstep s l s1 hP h, Preserved.trans hpres ?_⟩
  rcases step_fs_or_exec c s s1 l h with he | ⟨x, hx, hex⟩
  · rw [he]; exact Preserved.refl _
  · exact execOp_fresh_preserved _ _ c x (habs s hP x hx) hex

end Xcp.L0

namespace Xcp

open L0

/-- the sequential run is one of the interleavings -/
theorem freshRun_of_reach (c : Cfg) : ∀ (todo : List Op) (g : Fs),
    (∀ ls s, run c ⟨g, todo, [], false⟩ ls = some s →
      (∀ op ∈ s.queue, ∀ t, opTarget op = some t → s.fs.lexists t = false) ∧
      (∀ op r, s.todo = op :: r → ∀ t, opTarget op = some t → s.fs.lexists t = false)) →
    FreshRun g c todo := by
  intro todo
  induction todo with
  | nil => intro g _; trivial
  | cons op r ih =>
    intro g H
    refine ⟨(H [] _ rfl).2 op r rfl, ?_⟩
    cases hx : execOp g c op with
    | none => trivial
    | some g' =>
      apply ih g'
      intro ls s hr
      have hpre : ∃ pre, run c ⟨g, op :: r, [], false⟩ pre = some ⟨g', r, [], false⟩ := by
        cases hsync : isSync op with
        | true => exact ⟨[.walk], by simp [run, step, hsync, hx]⟩
        | false => exact ⟨[.walk, .exec 0], by simp [run, step, hsync, hx]⟩
      obtain ⟨pre, hp⟩ := hpre
      apply H (pre ++ ls) s
      rw [run_append, hp]
      exact hr

end Xcp
