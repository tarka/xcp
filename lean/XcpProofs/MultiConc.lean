import XcpProofs.MultiSource
import XcpProofs.CopySpec
import XcpProofs.RunInv
/-! # Several sources into one existing directory: the concatenated operation lists

In the real program the walker goes through the sources one after the other while workers are still completing
operations of earlier sources; in the concurrent model L0 this is the run over the concatenation of the per-source
operation lists, each computed by `walkEntry` in the initial file system (`multiOps`; by `walk_shape` a source's list
does not depend on the destination, so it is the concatenation `allOps` of the lists `opsOf`: `multiOps_shape`).
Static facts (`MSpec`): every operation belongs to an item; targets of different items are below distinct siblings
`dn ++ [b]`, hence unrelated; every source is unrelated to every target — so the concatenation is duplicate-free,
pairwise independent, can be walked in order (`TodoOK`), and satisfies `CopySpec` over the items' targets
(`MSpec.copySpec`, `multi_setup`): what `run_ok_and_refines` asks of an operation list.  The sequential run of the
concatenation succeeds and gives the overlay of all items (`multi_sequential`, an instance of `foldRun_overlay`).
With `--no-clobber` and every target absent, every reachable state keeps what existed
(`multi_noclobber_any_interleaving`). -/
namespace Xcp

open L0

/-- what `multiOps` is when no probe fires (`multiOps_shape`): the lists `opsOf` of the sources, in argv order -/
def allOps (dn : List Name) (items : List CopySrc) : List Op :=
  items.flatMap fun e => opsOf e.node e.path.names (dn ++ [e.base])

theorem mem_allOps {dn : List Name} {items : List CopySrc} {x : Op} :
    x ∈ allOps dn items ↔ ∃ e ∈ items, x ∈ opsOf e.node e.path.names (dn ++ [e.base]) :=
  List.mem_flatMap

theorem flatMap_congr_mem {α β : Type} {f g : α → List β} : ∀ (l : List α), (∀ a ∈ l, f a = g a) →
    l.flatMap f = l.flatMap g := by
  intro l
  induction l with
  | nil => intro _; rfl
  | cons a r ih =>
    intro h
    simp only [List.flatMap_cons]
    rw [h a List.mem_cons_self, ih (fun b hb => h b (List.mem_cons_of_mem _ hb))]

/-- the static facts about the concatenated list, with no file system: `OpsSpec` per source (depth 63 =
`walkFuel - 1`), every source unrelated to every target `dn ++ [e.base]`, base names distinct -/
structure MSpec (items : List CopySrc) (dn : List Name) : Prop where
  cop : ∀ e ∈ items, e.node.Copyable 63
  spec : ∀ e ∈ items,
    OpsSpec e.node e.path.names (dn ++ [e.base]) 63 (opsOf e.node e.path.names (dn ++ [e.base]))
  un : ∀ e ∈ items, ∀ e' ∈ items, ¬ e.path.names <+: dn ++ [e'.base] ∧ ¬ dn ++ [e'.base] <+: e.path.names
  nd : (items.map (·.base)).Nodup

theorem MSpec.char {items : List CopySrc} {dn : List Name} (h : MSpec items dn) {x : Op}
    (hx : x ∈ allOps dn items) :
    ∃ e ∈ items, ∃ rel m, e.node.getAt rel = some m ∧ rel.length ≤ 63 ∧
      x = headOp m (e.path.names ++ rel) (dn ++ [e.base] ++ rel) := by
  obtain ⟨e, he, hxe⟩ := mem_allOps.1 hx
  obtain ⟨rel, m, hg, hl, ex⟩ := (h.spec e he).char x hxe
  exact ⟨e, he, rel, m, hg, hl, ex⟩

theorem MSpec.pairIndep {items : List CopySrc} {dn : List Name} (h : MSpec items dn) :
    PairIndep (allOps dn items) := by
  intro x hx y hy hxy hsx
  obtain ⟨e, he, hxe⟩ := mem_allOps.1 hx
  obtain ⟨e', he', hye⟩ := mem_allOps.1 hy
  by_cases hb : e.base = e'.base
  · have := nodup_map_inj (·.base) h.nd he he' hb
    subst this
    exact (h.spec e he).pairIndep x hxe y hye hxy hsx
  · obtain ⟨rx, mx, _, _, ex⟩ := (h.spec e he).char x hxe
    obtain ⟨ry, my, _, _, ey⟩ := (h.spec e' he').char y hye
    right
    refine ⟨plainPath (dn ++ [e.base] ++ rx), plainPath (dn ++ [e'.base] ++ ry), by rw [ex, headOp_target],
      by rw [ey, headOp_target], plainPath_namesOnly _, plainPath_namesOnly _, ?_, ?_, ?_⟩
    · left
      simp only [plainPath_names]
      exact unrel_append (sibling_unrel dn hb) (sibling_unrel dn (Ne.symm hb)) rx ry
    · intro s hs
      rw [ex] at hs
      obtain ⟨e1, _, _⟩ := headOp_srcOf _ _ _ _ hs
      subst e1
      simp only [plainPath_names]
      exact ⟨plainPath_namesOnly _, unrel_append (h.un e he e' he').1 (h.un e he e' he').2 _ _⟩
    · intro s hs
      rw [ey] at hs
      obtain ⟨e1, _, _⟩ := headOp_srcOf _ _ _ _ hs
      subst e1
      simp only [plainPath_names]
      exact ⟨plainPath_namesOnly _, unrel_append (h.un e' he' e he).1 (h.un e' he' e he).2 _ _⟩

theorem todoOK_allOps (dn : List Name) : ∀ (items : List CopySrc) (D : List Name → Prop), D dn →
    TodoOK D (allOps dn items)
  | [], _, _ => trivial
  | e :: r, D, hD => by
    show TodoOK D (opsOf e.node e.path.names (dn ++ [e.base]) ++ allOps dn r)
    exact todoOK_opsOf e.node _ _ D _ (by rw [List.dropLast_concat]; exact hD) (todoOK_allOps dn r D hD)

/-- the targets of the items, each with the tree to be laid there -/
abbrev itemTgts (dn : List Name) (items : List CopySrc) : List Tgt := items.map fun e => ⟨dn ++ [e.base], e.node⟩

/-- from the per-item facts: sibling targets are unrelated, every source is out of the way of every target -/
theorem MSpec.copySpec {fs0 : Fs} {items : List CopySrc} {dn : List Name} (h : MSpec items dn)
    (hsrc : ∀ e ∈ items, fs0.root.getAt e.path.names = some e.node) :
    CopySpec fs0 (itemTgts dn items) 63 (allOps dn items) := by
  refine CopySpec.flatMap (fun e : CopySrc => (⟨dn ++ [e.base], e.node⟩ : Tgt)) _ items ?_ ?_ ?_
  · intro e he
    refine (h.spec e he).copySpec (opsOf_nodup 63 e.node (h.cop e he) _ _) ?_
    intro rel m hg _ _
    rw [Node.getAt_append, hsrc e he]
    exact hg
  · exact (List.pairwise_map.1 h.nd).imp fun hb => ⟨sibling_unrel dn hb, sibling_unrel dn (Ne.symm hb)⟩
  · intro e he x hx s hs e' he'
    obtain ⟨rel, m, _, _, ex⟩ := (h.spec e he).char x hx
    rw [ex] at hs
    obtain ⟨e1, _, _⟩ := headOp_srcOf _ _ _ _ hs
    subst e1
    rw [plainPath_names]
    have hU := unrel_append (h.un e he e' he').1 (h.un e he e' he').2 rel []
    rwa [List.append_nil] at hU

/-- the walker's lists, computed in the initial file system with the walker's fixed fuel, concatenated -/
abbrev multiOps (fs : Fs) (c : Cfg) (dest : RPath) (items : List CopySrc) : List Op :=
  items.flatMap fun e => walkEntry fs c none e.path (plainPath (dest.names ++ [e.base])) walkFuel [] []

theorem multiOps_shape {fs : Fs} {dest : RPath} {items : List CopySrc} {fuel : Nat} (H : MultiHyp fs dest items fuel)
    (c : Cfg) (hd : c.dereference = false)
    (hn : ∀ e ∈ items, c.noClobber = false ∨
      ∀ rel, fs.lexists (relJoin (plainPath (dest.names ++ [e.base])) rel) = false) :
    multiOps fs c dest items = allOps dest.names items := by
  apply flatMap_congr_mem
  intro e he
  obtain ⟨hpe, _, hsn, hnl, hcop, hl⟩ := H.item he
  have hshape := walk_root fs c hd e.path.names (dest.names ++ [e.base]) (hn e he) hcop hsn hnl hl
  rw [← hpe, ← walkFuel_eq] at hshape
  exact hshape

theorem multi_mspec {fs : Fs} {dest : RPath} {items : List CopySrc} {fuel : Nat} (H : MultiHyp fs dest items fuel) :
    MSpec items dest.names := by
  refine ⟨fun e he => (H.item he).2.2.2.2.1, ?_, H.un, H.nd⟩
  intro e he
  obtain ⟨_, _, _, _, hcop, hl⟩ := H.item he
  refine ⟨mem_opsOf 63 e.node hcop _ _, (H.un e he e he).1, (H.un e he e he).2, by simp, hl, ?_⟩
  have := H.destLen
  simp only [List.length_append, List.length_cons, List.length_nil]
  omega

/-- `hn`: with `noClobber` the lists are the structural ones only if the probe never fires, which absent targets
guarantee -/
theorem multi_setup {fs : Fs} {dest : RPath} {items : List CopySrc} {fuel : Nat} (H : MultiHyp fs dest items fuel)
    (c : Cfg) (hd : c.dereference = false)
    (hn : c.noClobber = false ∨ ∀ e ∈ items, fs.root.getAt (dest.names ++ [e.base]) = none) :
    multiOps fs c dest items = allOps dest.names items ∧
    CopySpec fs (itemTgts dest.names items) 63 (allOps dest.names items) ∧
    TodoOK (DirsOf fs) (allOps dest.names items) := by
  have hspec := multi_mspec H
  refine ⟨multiOps_shape H c hd ?_, hspec.copySpec (fun e he => (H.src e he).2.2.1),
    todoOK_allOps dest.names items _ H.dd⟩
  intro e he
  refine hn.imp_right fun habs => absent_below fs _ (habs e he) ?_
  rw [ParentDir, List.dropLast_concat]
  exact H.dd

/-- the sequential execution of the concatenation succeeds and gives the overlay of `multi_overlay` -/
theorem multi_sequential (fs : Fs) (c : Cfg) (dest : RPath) (items : List CopySrc) (fuel : Nat)
    (H : MultiHyp fs dest items fuel) (hd : c.dereference = false) (hn : c.noClobber = false)
    (hcomp : ∀ e ∈ items, Compatible (fs.root.getAt (dest.names ++ [e.base])) e.node) :
    ∃ fs', execOps fs c (multiOps fs c dest items) = ⟨.ok, fs'⟩ ∧
      FsEq fs' { fs with root := overlayAll fs.root dest.names items fs.root } := by
  rw [multiOps_shape H c hd (fun _ _ => .inl hn)]
  obtain ⟨es0, hes0⟩ := H.dd
  have h := foldRun_overlay (cp := id) hes0 H.targets.1 items fs (by rw [List.map_id]; exact H.nd)
    (fun e he => List.mem_map_of_mem he) (fun e he => H.overlay_WF he _ (fun x hx => subtree_WF H.wf.2.1 hx)) hcomp
    (fun e he => exactStep_opsOf id c hes0 H.targets.1 e (.inl hn) (.self (H.item he).2.2.1) (H.item he).2.2.2.2.1 (H.targets.2 e he)
      (List.mem_map_of_mem he) (H.item he).2.2.2.2.2 H.destLen)
    (Ready.init H.wf _ _)
  rw [List.map_id, ← execOps_flatMap] at h
  exact h

/-! `xcp -r --no-clobber s1 … sn DEST/` with `DEST` an existing directory and every `DEST/basename(si)` absent (an
existing target makes the walker emit nothing / `.fail`: `C08.collision_emits_no_operation`).  The concurrent model
runs over the concatenation `multiOps` of the walker's per-source lists; with every target absent for `lstat` the
no-clobber probe never fires, so the lists are the structural `opsOf` lists whatever `noClobber` is (`multi_setup`).
The sequential run is one of the interleavings (`copy_freshRun`). -/

/-- in every reachable state of the concurrent model over the operations of all sources, every entry that
existed initially is still kept; whichever queued operation completes next, and whichever operation the walker
reaches next, finds that its target does not exist at that moment; and the run has not failed -/
theorem multi_noclobber_any_interleaving {fs : Fs} {dest : RPath} {items : List CopySrc} {fuel : Nat}
    (H : MultiHyp fs dest items fuel) (c : Cfg) (hd : c.dereference = false)
    (habs : ∀ e ∈ items, fs.root.getAt (dest.names ++ [e.base]) = none)
    (ls : List Label) (s : St)
    (hrun : run c (init fs (multiOps fs c dest items)) ls = some s) :
    Preserved fs.root s.fs.root ∧
    (∀ op ∈ s.queue, ∀ t, opTarget op = some t → s.fs.lexists t = false) ∧
    (∀ op r, s.todo = op :: r → ∀ t, opTarget op = some t → s.fs.lexists t = false) ∧
    s.failed = false := by
  obtain ⟨hops, hspec, htodo⟩ := multi_setup H c hd (.inr habs)
  rw [hops] at hrun
  exact run_fresh_preserves hspec (List.forall_mem_map.2 habs) c
    (List.forall_mem_map.2 fun e _ => parentDir_child e.base H.dd) htodo ls s hrun

/-- the sequential run over all sources alters no entry that existed before, anywhere in the file system -/
theorem multi_noclobber_preserves (fs : Fs) (c : Cfg) (dest : RPath) (items : List CopySrc) (fuel : Nat)
    (hd : c.dereference = false) (hn : c.noClobber = true)
    (hwf : FsEq fs fs)
    (hdest : PlainTarget fs dest) (hdd : ∃ es, fs.root.getAt dest.names = some (.dir es))
    (hfuel : fuel < walkFuel)
    (hsrc : ∀ e ∈ items, PlainTarget fs e.path ∧ e.path.fileName = some e.base ∧
      fs.root.getAt e.path.names = some e.node ∧ e.node.Copyable fuel ∧ e.path.names.length + walkFuel < 256)
    (hnd : (items.map (·.base)).Nodup)
    (hun : ∀ e ∈ items, ∀ e' ∈ items,
      ¬ e.path.names <+: dest.names ++ [e'.base] ∧ ¬ dest.names ++ [e'.base] <+: e.path.names)
    (habs : ∀ e ∈ items, fs.root.getAt (dest.names ++ [e.base]) = none)
    (hlen : dest.names.length + 1 + walkFuel < 256) :
    Preserved fs.root (execOps fs c (multiOps fs c dest items)).fs.root := by
  have _ := hn      -- the statement holds whatever `noClobber` is; this is the case C08 is about
  have _ := hdest   -- idle: the statement mentions `dest` only through `dest.names`
  obtain ⟨hops, hspec, htodo⟩ := multi_setup ⟨hwf, hdd, hfuel, hsrc, hnd, hun, hlen⟩ c hd (.inr habs)
  rw [hops]
  exact freshRun_preserved c _ fs (copy_freshRun hspec (List.forall_mem_map.2 habs) c
    (List.forall_mem_map.2 fun e _ => parentDir_child e.base hdd) htodo)

end Xcp
