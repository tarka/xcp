import XcpProofs.Clash
import XcpProofs.DerefTree
import XcpProofs.DerefOverlay
/-! # `--dereference`, a destination that clashes with the tree seen through the links: the run exits non-zero

`overlay_deref` decides the destinations that are `Compatible` with the tree seen through the links (`s.erase`).  This
file decides the rest, as `Clash` does without `-L`: when a destination, plain where `s.erase` maps onto it, is not
compatible with `s.erase`, the sequential run does not end with exit status ok and no run of the concurrent model can be
complete without having failed (`deref_clash_fails`; nothing is assumed about what the operations read: a `-L` run
creates no symbolic link, which is what keeps the targets free of links).  Together with `overlay_deref`: exit 0 implies
that the destination is the overlay with `s.erase`, no compatibility assumed (C13's
`exit_zero_implies_overlaid_with_the_dereferenced_tree`; the side condition `ReadsAway s tb.names` of `overlay_deref` —
no operation reads from a place at/below the target or above it — is kept there).  (`s.erase` holds no symbolic link, so
the clash is always a directory meeting a regular file, or a regular or special file meeting a directory.)

Every position of the dereferenced tree has its entry operation in `opsOfS`, reading from some place (`opsOfS_has_op`);
the tree seen through the links holds no symbolic link (`erase_getAt_not_link`, DerefTreeLemmas). -/
namespace Xcp

open L0

theorem headOp_dropSrc (m : Node) (a b tn : List Name) :
    Op.dropSrc (headOp m a tn) = Op.dropSrc (headOp m b tn) := by
  cases m <;> rfl

theorem opsOfS_has_op {d : Nat} {s : SNode} (hcop : s.erase.Copyable d) (T : List Name) {rel : List Name} {m : Node}
    (hg : s.erase.getAt rel = some m) : ∃ cp, headOp m cp (T ++ rel) ∈ opsOfS s T := by
  have h1 := headOp_mem_opsOf rel s.erase m [] T hg
  have h2 : Op.dropSrc (headOp m ([] ++ rel) (T ++ rel)) ∈ (opsOfS s T).map Op.dropSrc := by
    rw [opsOfS_dropSrc s [] T]
    exact List.mem_map_of_mem h1
  obtain ⟨x, hx, hxe⟩ := List.mem_map.1 h2
  obtain ⟨rel', m', cp', hg', _, ex, _⟩ := mem_opsOfS d s hcop T x hx
  have ht : opTarget x = some (plainPath (T ++ rel)) := by
    rw [← opTarget_dropSrc, hxe, opTarget_dropSrc, headOp_target]
  rw [ex, headOp_target] at ht
  have := List.append_cancel_left (plainPath_inj (Option.some.inj ht))
  subst this
  rw [hg] at hg'
  injection hg' with hg'
  subst hg'
  exact ⟨cp', ex ▸ hx⟩

theorem opsOfS_no_linkOp {d : Nat} {s : SNode} (hcop : s.erase.Copyable d) (T : List Name) :
    ∀ x ∈ opsOfS s T, isLinkOp x = false := by
  intro x hx
  obtain ⟨rel, m, cp, hg, _, ex, _⟩ := mem_opsOfS d s hcop T x hx
  rw [ex, headOp_isLinkOp]
  exact erase_getAt_not_link rel s m hg

theorem DerefSetup.walk {fs : Fs} {src tb : RPath} {s : SNode} {fuel : Nat} (H : DerefSetup fs src tb s fuel)
    (c : Cfg) (hd : c.dereference = true) (hn : c.noClobber = false) :
    walkEntry fs c none src tb (fuel + 1) [] [] = opsOfS s tb.names ∧ s.erase.Copyable (fuel + 1) ∧
    (∀ x ∈ opsOfS s tb.names, ∃ rel m cp, s.erase.getAt rel = some m ∧ x = headOp m cp (tb.names ++ rel) ∧
      (m.isDir = false → m.isLink = false → fs.root.getAt cp = some m)) ∧
    ∀ x ∈ opsOfS s tb.names, isLinkOp x = false := by
  obtain ⟨pes, hpes⟩ := H.par
  have hroot : fs.root.isLink = false := root_not_link_of_dir hpes
  obtain ⟨hcop, hsrcin⟩ := derefS_good fs hroot H.wf.2.1 (fuel + 1) src.names [] s H.der
  refine ⟨?_, hcop, ?_, opsOfS_no_linkOp hcop tb.names⟩
  · have hshape := walk_shape_deref fs c hd hroot src.names tb.names (.inl hn) (fuel + 1) [] [] s
      (by rw [List.append_nil]; exact H.der)
    rw [← plainTarget_eq fs tb H.tbPlain, ← absNames_eq H.abs, List.append_nil] at hshape
    exact hshape
  · intro x hx
    obtain ⟨rel, m, cp, hg, _, ex, hlf⟩ := mem_opsOfS (fuel + 1) s hcop tb.names x hx
    exact ⟨rel, m, cp, hg, ex, fun hm _ => (hsrcin _ (hlf hm)).1⟩

theorem deref_clash_fails {fs : Fs} {src tb : RPath} {s : SNode} {fuel : Nat} (H : DerefSetup fs src tb s fuel)
    (c : Cfg) (hd : c.dereference = true) (hn : c.noClobber = false) {dstNode : Node}
    (hdst : fs.root.getAt tb.names = some dstNode) (hplain : dstNode.plainWhereMapped s.erase = true)
    (hclash : ¬ Compatible (some dstNode) s.erase) :
    (execOps fs c (walkEntry fs c none src tb (fuel + 1) [] [])).exit = .err ∧
    ∀ (ls : List Label) (st : St), run c (init fs (walkEntry fs c none src tb (fuel + 1) [] [])) ls = some st →
      final st = true → st.failed = true := by
  obtain ⟨hshape, hcop, hchar, hnolink⟩ := H.walk c hd hn
  rw [hshape]
  refine tree_clash (.inr hnolink) c hcop (Nat.succ_lt_succ H.len) ?_
    (fun rel m hg => opsOfS_has_op hcop tb.names hg) fs H.wf
    (plains_init fs hchar H.tbPlain.2.2.2 (mappedPlain_no_link (by rw [hdst]; exact hplain))) hdst hplain hclash
  intro op hop
  obtain ⟨rel, m, cp, hg, ex, _⟩ := hchar op hop
  exact ⟨tb.names ++ rel, m, cp, ex, fun h0 => H.ne (List.append_eq_nil_iff.1 h0).1, fun _ _ => ⟨rel, rfl, hg⟩⟩

end Xcp
