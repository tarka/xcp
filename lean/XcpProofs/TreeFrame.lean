import XcpProofs.EndToEnd
/-! # Tree-level frame (C03): sources and bystanders are not modified

Corollaries of `l1run_overlay` about the final state `fs'` of `L1run fs o texts` for `xcp -r s1 … sn DEST` (it exists:
`l1run_succeeds`), and the same frame for one source from `mirror_overlay` (`mirror_overlay_frame`).  An
observation `obsAt r q` is what is at the place `q`: nothing, a regular file with its content, a symbolic link with its
text, a special file with its kind and device, or "a directory" — without the directory's entry names (`ONode.dir`
carries nothing).  So an ancestor of a target (`DEST` and the directories above it), which gains an entry, is
observed unchanged as well, and the strongest formulation is simply: every place that is not at or below a target
`DEST/bi` is observed unchanged (`bystanders_untouched`); what the entries of `DEST` are is covered by applying this to
the places `DEST/m/…` (`dest_other_entries_untouched`: present or absent, and identical, as before, for every name `m`
that is not a source base name). -/
namespace Xcp

theorem l1run_succeeds (fs : Fs) (o : Opts) (texts : GiTexts) (dest : RPath) (items : List CopySrc) (fuel : Nat)
    (hd : o.cfg.dereference = false) (hn : o.cfg.noClobber = false) (hg : o.cfg.gitignore = false)
    (hnt : o.cfg.noTargetDir = false)
    (hrec : o.cfg.recursive = true) (hglob : o.glob = false)
    (hpaths : (o.targetDir = none ∧ o.paths = items.map (·.path) ++ [dest]) ∨
      (o.targetDir = some dest ∧ o.paths = items.map (·.path)))
    (hne : items ≠ [])
    (hwf : FsEq fs fs)
    (hdest : PlainTarget fs dest) (hdd : ∃ es, fs.root.getAt dest.names = some (.dir es))
    (hfuel : fuel < walkFuel)
    (hsrc : ∀ e ∈ items, PlainTarget fs e.path ∧ e.path.fileName = some e.base ∧
      fs.root.getAt e.path.names = some e.node ∧ e.node.Copyable fuel ∧ e.path.names.length + walkFuel < 256)
    (hnd : (items.map (·.base)).Nodup)
    (hun : ∀ e ∈ items, ∀ e' ∈ items,
      ¬ e.path.names <+: dest.names ++ [e'.base] ∧ ¬ dest.names ++ [e'.base] <+: e.path.names)
    (hcomp : ∀ e ∈ items, Compatible (fs.root.getAt (dest.names ++ [e.base])) e.node)
    (hlen : dest.names.length + 1 + walkFuel < 256)
    : ∃ fs', L1run fs o texts = ⟨.ok, fs'⟩ := by
  obtain ⟨_, fs'', h, _⟩ := l1run_overlay fs o texts dest items fuel ⟨hwf, hdd, hfuel, hsrc, hnd, hun, hlen⟩ hd hn hg
    hnt hrec hglob hpaths hne hdest hcomp
  exact ⟨fs'', h⟩

/-- every place that is not at or below a target `dest/bi` is observed unchanged — this includes
`dest` itself and its ancestors (still directories), every other entry of `dest`, and everything outside `dest`.  (The
final state of the run is unique, so this holds of every successful outcome.) -/
theorem bystanders_untouched (fs : Fs) (o : Opts) (texts : GiTexts) (dest : RPath) (items : List CopySrc) (fuel : Nat)
    (H : MultiHyp fs dest items fuel)
    (hd : o.cfg.dereference = false) (hn : o.cfg.noClobber = false) (hg : o.cfg.gitignore = false)
    (hnt : o.cfg.noTargetDir = false) (hrec : o.cfg.recursive = true) (hglob : o.glob = false)
    (hpaths : (o.targetDir = none ∧ o.paths = items.map (·.path) ++ [dest]) ∨
      (o.targetDir = some dest ∧ o.paths = items.map (·.path)))
    (hne : items ≠ []) (hdest : PlainTarget fs dest)
    (hcomp : ∀ e ∈ items, Compatible (fs.root.getAt (dest.names ++ [e.base])) e.node)
    (fs' : Fs) (hrun : L1run fs o texts = ⟨.ok, fs'⟩)
    (q : List Name) (hq : ∀ e ∈ items, ¬ dest.names ++ [e.base] <+: q) :
    obsAt fs'.root q = obsAt fs.root q := by
  obtain ⟨_, fs'', h, heq⟩ := l1run_overlay fs o texts dest items fuel H hd hn hg hnt hrec hglob hpaths hne hdest hcomp
  rw [hrun] at h
  injection h with _ h
  rw [h, heq.2.2.2 q]
  exact overlayAll_out fs.root dest.names q items fs.root hq

/-- the entries of `dest` that are not source base names, with everything below them: as before (present or
absent, and identical) -/
theorem dest_other_entries_untouched (fs : Fs) (o : Opts) (texts : GiTexts) (dest : RPath) (items : List CopySrc) (fuel : Nat)
    (hd : o.cfg.dereference = false) (hn : o.cfg.noClobber = false) (hg : o.cfg.gitignore = false)
    (hnt : o.cfg.noTargetDir = false)
    (hrec : o.cfg.recursive = true) (hglob : o.glob = false)
    (hpaths : (o.targetDir = none ∧ o.paths = items.map (·.path) ++ [dest]) ∨
      (o.targetDir = some dest ∧ o.paths = items.map (·.path)))
    (hne : items ≠ [])
    (hwf : FsEq fs fs)
    (hdest : PlainTarget fs dest) (hdd : ∃ es, fs.root.getAt dest.names = some (.dir es))
    (hfuel : fuel < walkFuel)
    (hsrc : ∀ e ∈ items, PlainTarget fs e.path ∧ e.path.fileName = some e.base ∧
      fs.root.getAt e.path.names = some e.node ∧ e.node.Copyable fuel ∧ e.path.names.length + walkFuel < 256)
    (hnd : (items.map (·.base)).Nodup)
    (hun : ∀ e ∈ items, ∀ e' ∈ items,
      ¬ e.path.names <+: dest.names ++ [e'.base] ∧ ¬ dest.names ++ [e'.base] <+: e.path.names)
    (hcomp : ∀ e ∈ items, Compatible (fs.root.getAt (dest.names ++ [e.base])) e.node)
    (hlen : dest.names.length + 1 + walkFuel < 256)
    (fs' : Fs) (hrun : L1run fs o texts = ⟨.ok, fs'⟩)
    (m : Name) (hm : m ∉ items.map (·.base)) (q : List Name) :
    obsAt fs'.root (dest.names ++ m :: q) = obsAt fs.root (dest.names ++ m :: q) := by
  apply bystanders_untouched fs o texts dest items fuel ⟨hwf, hdd, hfuel, hsrc, hnd, hun, hlen⟩ hd hn hg hnt hrec hglob
    hpaths hne hdest hcomp fs' hrun
  intro e he hp
  have h2 : dest.names ++ [e.base] <+: dest.names ++ m :: q := hp
  rw [List.prefix_append_right_inj] at h2
  have := List.cons_prefix_cons.1 h2
  exact hm (List.mem_map.2 ⟨e, he, this.1⟩)

/-- the frame of `mirror_overlay`: the run succeeds; every place not at or below the target base is observed
unchanged; in particular the whole source subtree -/
theorem mirror_overlay_frame (fs : Fs) (c : Cfg)
    (hd : c.dereference = false) (hn : c.noClobber = false)
    (src tb : RPath) (srcNode : Node) (fuel : Nat)
    (hwf : FsEq fs fs) (hroot : fs.root.isDir = true)
    (hsrc : PlainTarget fs src) (hsn : fs.root.getAt src.names = some srcNode)
    (hcop : srcNode.Copyable fuel)
    (htb : PlainTarget fs tb) (hne : tb.names ≠ [])
    (hcompat : Compatible (fs.root.getAt tb.names) srcNode)
    (hpar : ∃ es, fs.root.getAt tb.names.dropLast = some (.dir es))
    (hun1 : ¬ src.names <+: tb.names) (hun2 : ¬ tb.names <+: src.names)
    (hlen : src.names.length + fuel < 200 ∧ tb.names.length + fuel < 200)
    : ∃ fs', execOps fs c (walkEntry fs c none src tb (fuel + 1) [] []) = ⟨.ok, fs'⟩ ∧
      (∀ q, ¬ tb.names <+: q → obsAt fs'.root q = obsAt fs.root q) ∧
      (∀ q, obsAt fs'.root (src.names ++ q) = obsAt fs.root (src.names ++ q)) ∧
      (∀ q, obsAt fs'.root q ≠ obsAt fs.root q → tb.names <+: q) := by
  obtain ⟨fs', hrun, heq⟩ := mirror_overlay (.of_hyps hwf hroot hsrc hsn hcop htb hne hpar hun1 hun2 hlen) c hd (.inl hn) hcompat
  have hout : ∀ q, ¬ tb.names <+: q → obsAt fs'.root q = obsAt fs.root q := by
    intro q hq
    rw [heq.2.2.2 q]
    exact setAt_out _ _ _ _ hq
  refine ⟨fs', hrun, hout, ?_, ?_⟩
  · intro q
    exact hout _ (fun hp => not_both_prefix hun1 hun2 (List.prefix_append _ _) hp)
  · intro q hq
    apply Classical.byContradiction
    intro hno
    exact hq (hout q hno)

end Xcp
