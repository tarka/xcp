import XcpProofs.CopySpec
import XcpProofs.L0Step
/-! # The run invariant of a tree copy under every interleaving

For every tree copy the concurrent model `L0` is run over — one or several target roots, fresh or existing
(head-compatible) destinations, operations reading from the source tree itself or, under `-L`, from arbitrary canonical
places, with or without `--no-clobber` —, over the static facts `CopySpec`.  `CopyInv`: whatever is out of the way of
the targets is as it was, and the target of a pending operation shows what the initial destination showed there.  So
every pending operation succeeds whenever it runs, and every operation handed over is `GoodAllD`, which is the `hand`
hypothesis of the refinement theorem `fs_run_refines_sequentialD`; `run_ok_and_refines` puts the two together. -/
namespace Xcp

open L0

theorem exec_headOp_fresh (g : Fs) (c : Cfg) (m : Node) (sn par : List Name) (nm : Name) (pes : Entries)
    (hs : m.isDir = false → m.isLink = false → g.root.getAt sn = some m ∧ sn.length ≤ 256)
    (hlt : par.length < 256)
    (hp : g.root.getAt par = some (.dir pes)) (hn : g.root.getAt (par ++ [nm]) = none) :
    execOp g c (headOp m sn (par ++ [nm])) = some { g with root := g.root.setAt (par ++ [nm]) (stub m) } := by
  cases m with
  | file k => exact execOp_copy_fresh g c sn par nm k pes (hs rfl rfl).1 (hs rfl rfl).2 hlt hp hn
  | link t => exact execOp_link_fresh g c t par nm pes hlt hp hn
  | special k d => exact execOp_special_fresh g c sn par nm k d pes (hs rfl rfl).1 (hs rfl rfl).2 hlt hp hn
  | dir es => exact execOp_mkdir_fresh g c par nm pes hlt hp hn

/-- what executing the entry operation of `m` towards `tn` does to the state, as the invariant needs it: nothing away
from `tn`, `m`'s observation at `tn`, no other observation changed -/
structure HeadPost (g g' : Fs) (tn : List Name) (m : Node) : Prop where
  out : ∀ q, Unrel q tn → g'.root.getAt q = g.root.getAt q
  here : obsAt g'.root tn = some m.obs
  frame : ∀ t', t' ≠ tn → obsAt g'.root t' = obsAt g.root t'

theorem HeadPost.dirs {g g' : Fs} {tn : List Name} {m : Node} (P : HeadPost g g' tn m)
    (hok : HeadOK (obsAt g.root tn) m) : ∀ p, DirsOf g p → DirsOf g' p := by
  rintro p ⟨es, hes⟩
  show ∃ es', g'.root.getAt p = some (.dir es')
  apply getAt_dir_of_obs
  by_cases hp : p = tn
  · subst hp
    rw [obsAt_dir hes] at hok
    rw [P.here, headOK_dir_isDir hok]
  · rw [P.frame p hp]
    exact obsAt_dir hes

theorem HeadPost.made {g g' : Fs} {tn cp : List Name} {m : Node} (P : HeadPost g g' tn m) (t : RPath)
    (ht : headOp m cp tn = .mkdir t) : DirsOf g' t.names := by
  obtain ⟨e1, e2⟩ := headOp_mkdir _ _ _ _ ht
  subst e1
  rw [plainPath_names]
  show ∃ es', g'.root.getAt tn = some (.dir es')
  apply getAt_dir_of_obs
  rw [P.here]
  cases m <;> simp [stub] at e2
  rfl

/-- `hover`: overwriting a special file is unlink, then mknod, which needs `noClobber = false` and distinct entry names in
the parent -/
theorem exec_head (c : Cfg) (g : Fs) (m : Node) (cp tn : List Name) (hne : tn ≠ []) (hlen : tn.length < 256)
    (hsrc : m.isDir = false → m.isLink = false → g.root.getAt cp = some m ∧ cp.length ≤ 256 ∧ cp ≠ tn)
    (hpd : ParentDir g.root tn)
    (hok : HeadOK (obsAt g.root tn) m)
    (hover : (c.noClobber = false ∧ g.root.WF) ∨ g.root.getAt tn = none) :
    ∃ g', execOp g c (headOp m cp tn) = some g' ∧ HeadPost g g' tn m := by
  rcases List.eq_nil_or_concat tn with h0 | ⟨par, nm, h0⟩
  · exact absurd h0 hne
  simp only [List.concat_eq_append] at h0
  have ⟨pes, hpes⟩ := hpd
  rw [h0, List.dropLast_concat] at hpes
  have hlp : par.length + 1 < 256 := by
    rw [h0, List.length_append] at hlen
    exact hlen
  -- the common ending: the new root is the old one with a leaf observed as `m.obs` put at the target
  have fin : ∀ r1 : Node, ReplacedAt g.root r1 tn m.obs → (∀ s, s ≠ [] → obsAt g.root (tn ++ s) = none) →
      (∀ q, Unrel q tn → r1.getAt q = g.root.getAt q) → HeadPost g { g with root := r1 } tn m :=
    fun r1 R hb hS => ⟨hS, R.here, frame_of_replacedAt R hb⟩
  have outSet : ∀ (v : Node) (q : List Name), Unrel q tn → (g.root.setAt tn v).getAt q = g.root.getAt q :=
    fun v q hq => getAt_setAt_unrelated _ _ _ _ hq.2 hq.1
  cases hdst : g.root.getAt tn with
  | none =>
    have hx := exec_headOp_fresh g c m cp par nm pes (fun h1 h2 => ⟨(hsrc h1 h2).1, (hsrc h1 h2).2.1⟩) (Nat.lt_of_succ_lt hlp) hpes
      (by rw [← h0]; exact hdst)
    rw [← h0] at hx
    refine ⟨_, hx, fin _ ?_ ?_ (outSet _)⟩
    · have R := replacedAt_setAt g.root tn (stub m) hpd (stub_leafLike m)
      rw [stub_obs] at R
      exact R
    · intro s _
      rw [obsAt_eq_none]
      exact getAt_append_none _ _ _ hdst
  | some y =>
    have hoy : obsAt g.root tn = some y.obs := by simp [obsAt, hdst]
    rw [hoy] at hok
    cases m with
    | file k =>
      cases y <;> simp [HeadOK, Node.obs] at hok
      rename_i k'
      obtain ⟨hs, hl, hcn⟩ := hsrc rfl rfl
      refine ⟨_, execOp_copy_over g c cp tn k k' hs hdst hcn hl hlen, fin _ ?_ ?_ (outSet _)⟩
      · exact replacedAt_setAt g.root tn (.file k) hpd (leafLike_nondir _ rfl)
      · exact obs_below_none hdst (leafLike_nondir _ rfl)
    | link t =>
      cases y <;> simp [HeadOK, Node.obs] at hok
    | special k dv =>
      have hy : y.isDir = false ∧ y.isLink = false := by
        cases y <;> simp [HeadOK, Node.obs] at hok <;> simp [Node.isDir, Node.isLink]
      obtain ⟨hn, hwf⟩ := hover.resolve_right (by rw [hdst]; simp)
      obtain ⟨hs, hl, hcn⟩ := hsrc rfl rfl
      have hx := execOp_special_over g c hn cp par nm k dv pes y hs hpes (hwf par pes hpes)
        (by rw [← h0]; exact hdst) hy.1 hy.2 (by rw [← h0]; exact hcn) hl hlp
      rw [← h0] at hx
      refine ⟨_, hx, fin _ ?_ ?_ ?_⟩
      · exact replacedAt_reset g.root tn (.special k dv) hpd (leafLike_nondir _ rfl)
      · exact obs_below_none hdst (leafLike_nondir _ hy.1)
      · intro q hq
        rw [getAt_setAt_unrelated _ _ _ _ hq.2 hq.1, getAt_delAt_unrelated _ _ _ hq.2 hq.1]
    | dir es =>
      cases y <;> simp [HeadOK, Node.obs] at hok
      rename_i des
      exact ⟨g, execOp_mkdir_over g c tn des hdst hlen, fun _ _ => rfl, obsAt_dir hdst, fun _ _ => rfl⟩

variable {fs0 : Fs} {ts : List Tgt} {d : Nat} {ops : List Op} {s : St}

/-- `fs0` is the initial state.  The target of a pending operation shows what `fs0` showed there (`pend`: nobody else
writes at that place); a position of a target's tree shows what `fs0` showed or the tree's node (`kinds`).  `wf` is
conditional: well-formedness is needed only to overwrite a special file, never towards absent targets -/
structure CopyInv (fs0 : Fs) (ts : List Tgt) (ops : List Op) (s : St) : Prop where
  ok : s.failed = false
  wf : FsEq fs0 fs0 → FsEq s.fs s.fs
  out : ∀ q, Away ts q → s.fs.root.getAt q = fs0.root.getAt q
  base : ∀ t ∈ ts, ParentDir s.fs.root t.T
  todo : TodoOK (DirsOf s.fs) s.todo
  qpar : ∀ x ∈ s.queue, ∀ p, opTarget x = some p → ParentDir s.fs.root p.names
  pend : ∀ x ∈ s.queue ++ s.todo, ∀ p, opTarget x = some p → obsAt s.fs.root p.names = obsAt fs0.root p.names
  kinds : ∀ t ∈ ts, ∀ rel n, t.E.getAt rel = some n →
    obsAt s.fs.root (t.T ++ rel) = obsAt fs0.root (t.T ++ rel) ∨ obsAt s.fs.root (t.T ++ rel) = some n.obs
  sub : (s.queue ++ s.todo).Sublist ops

theorem CopyInv.init (hbase : ∀ t ∈ ts, ParentDir fs0.root t.T) (htodo : TodoOK (DirsOf fs0) ops) :
    CopyInv fs0 ts ops (L0.init fs0 ops) :=
  ⟨rfl, fun h => h, fun _ _ => rfl, hbase, htodo, fun _ hx => (nomatch hx), fun _ _ _ _ => rfl,
    fun _ _ _ _ _ => .inl rfl, List.Sublist.refl _⟩

theorem CopyInv.srcAt (hinv : CopyInv fs0 ts ops s) {m : Node} {cp : List Name} (h1 : fs0.root.getAt cp = some m)
    (h2 : Away ts cp) : s.fs.root.getAt cp = some m := by
  rw [hinv.out cp h2]
  exact h1

theorem CopyInv.parent (hinv : CopyInv fs0 ts ops s) {x : Op}
    (hdue : (∃ r, s.todo = x :: r) ∨ x ∈ s.queue) (t : RPath) (ht : opTarget x = some t) :
    ParentDir s.fs.root t.names := by
  rcases hdue with ⟨r, htd⟩ | hq
  · have := hinv.todo
    rw [htd] at this
    exact this.1 t ht
  · exact hinv.qpar x hq t ht

theorem CopyInv.not_link (hinv : CopyInv fs0 ts ops s) {t : Tgt} (ht : t ∈ ts) (H0 : Head0 fs0 t.E t.T)
    {rel : List Name} {n : Node} (hg : t.E.getAt rel = some n) (hnl : n.isLink = false) (tg : RPath) :
    s.fs.root.getAt (t.T ++ rel) ≠ some (.link tg) := by
  intro hgl
  rw [getAt_link_iff] at hgl
  rcases hinv.kinds t ht rel n hg with hk | hk
  · rw [hk] at hgl
    have := H0 rel n hg
    rw [hgl] at this
    exact headOK_link_false this
  · rw [hk] at hgl
    cases n <;> simp [Node.obs, Node.isLink] at hgl hnl

/-- above a position of a target's tree are positions of directories of the tree, then directories above the root -/
theorem CopyInv.noLinkAbove (hinv : CopyInv fs0 ts ops s) {t : Tgt} (ht : t ∈ ts) (H0 : Head0 fs0 t.E t.T)
    {rel : List Name} {n : Node} (hg : t.E.getAt rel = some n) :
    NoLinkAbove s.fs.root (t.T ++ rel) := by
  intro p hp hne tg hgl
  by_cases hT : t.T <+: p
  · obtain ⟨s', hs'⟩ := hT
    subst hs'
    obtain ⟨u, hu⟩ := (List.prefix_append_right_inj t.T).1 hp
    subst hu
    have hu0 : u ≠ [] := by
      intro h0; apply hne; rw [h0, List.append_nil]
    obtain ⟨es, hes⟩ := getAt_append_dir hg hu0
    exact hinv.not_link ht H0 hes rfl tg hgl
  · have hpT : p <+: t.T := by
      rcases List.prefix_or_prefix_of_prefix hp (List.prefix_append t.T rel) with h1 | h1
      · exact h1
      · exact absurd h1 hT
    have hpne : p ≠ t.T := fun e => hT (e ▸ List.prefix_refl _)
    obtain ⟨es, hes⟩ := hinv.base t ht
    obtain ⟨es', hes'⟩ := getAt_prefix_dir hes (prefix_dropLast_of_ne hpT hpne)
    rw [hes'] at hgl
    cases hgl

/-- `hm`: either overwriting is allowed and the initial tree is well-formed, or all targets are absent initially (nothing
is ever overwritten) -/
theorem CopyInv.exec_one (h : CopySpec fs0 ts d ops) (H0 : ∀ t ∈ ts, Head0 fs0 t.E t.T) (c : Cfg)
    (hm : (c.noClobber = false ∧ FsEq fs0 fs0) ∨ ∀ t ∈ ts, fs0.root.getAt t.T = none)
    (hinv : CopyInv fs0 ts ops s) {x : Op} (hxm : x ∈ ops)
    (hpar : ∀ t, opTarget x = some t → ParentDir s.fs.root t.names)
    (hpend : ∀ t, opTarget x = some t → obsAt s.fs.root t.names = obsAt fs0.root t.names) :
    ∃ g', execOp s.fs c x = some g' ∧
      (∀ q, Away ts q → g'.root.getAt q = fs0.root.getAt q) ∧
      (∀ p, DirsOf s.fs p → DirsOf g' p) ∧
      (∀ t, x = .mkdir t → DirsOf g' t.names) ∧
      (∀ y ∈ ops, x ≠ y → ∀ t, opTarget y = some t → obsAt g'.root t.names = obsAt s.fs.root t.names) ∧
      (∀ t ∈ ts, ∀ rel n, t.E.getAt rel = some n →
        obsAt g'.root (t.T ++ rel) = obsAt fs0.root (t.T ++ rel) ∨ obsAt g'.root (t.T ++ rel) = some n.obs) := by
  obtain ⟨t, ht, rel, m, cp, hg, hl, ex, hlf⟩ := h.char x hxm
  have htgt : opTarget x = some (plainPath (t.T ++ rel)) := by rw [ex, headOp_target]
  have hpar' : ParentDir s.fs.root (t.T ++ rel) := by
    have := hpar _ htgt
    rwa [plainPath_names] at this
  have hobs : obsAt s.fs.root (t.T ++ rel) = obsAt fs0.root (t.T ++ rel) := by
    have := hpend _ htgt
    rwa [plainPath_names] at this
  have hhok : HeadOK (obsAt s.fs.root (t.T ++ rel)) m := by
    rw [hobs]; exact H0 t ht rel m hg
  obtain ⟨g', hx, P⟩ := exec_head c s.fs m cp (t.T ++ rel)
    (fun h0 => h.tne t ht (List.append_eq_nil_iff.1 h0).1)
    (by rw [List.length_append]; exact Nat.lt_of_le_of_lt (Nat.add_le_add_left hl _) (h.lenT t ht))
    (fun hmd hml => ⟨hinv.srcAt (hlf hmd hml).1 (hlf hmd hml).2.2, (hlf hmd hml).2.1,
      fun e => (((hlf hmd hml).2.2 t ht).append_right rel).1 (e ▸ List.prefix_refl _)⟩)
    hpar' hhok
    (hm.imp (fun hn => ⟨hn.1, (hinv.wf hn.2).2.1⟩)
      (fun habs => by rw [← obsAt_eq_none, hobs, obsAt_eq_none]; exact getAt_append_none _ _ _ (habs t ht)))
  rw [← ex] at hx
  refine ⟨g', hx, ?_, P.dirs hhok, fun t' ht' => P.made t' (ex ▸ ht'), ?_, ?_⟩
  · intro q hq
    rw [P.out q ((hq t ht).append_right rel)]
    exact hinv.out q hq
  · intro y hy hxy t' ht'
    exact P.frame _ (h.tgt_ne hxm hy hxy htgt ht')
  · intro u hu rel' n' hg'
    by_cases heq : u.T ++ rel' = t.T ++ rel
    · obtain ⟨h1, h2⟩ := tgt_inj h.sep hu ht heq
      subst h1; subst h2
      rw [hg] at hg'
      injection hg' with hg'
      subst hg'
      exact .inr P.here
    · rw [P.frame _ heq]
      exact hinv.kinds u hu rel' n' hg'

theorem CopyInv.step (h : CopySpec fs0 ts d ops)
    (H0 : ∀ t ∈ ts, Head0 fs0 t.E t.T) (c : Cfg)
    (hm : (c.noClobber = false ∧ FsEq fs0 fs0) ∨ ∀ t ∈ ts, fs0.root.getAt t.T = none)
    (s : St) (l : Label) (s1 : St) (hinv : CopyInv fs0 ts ops s) (hstep : L0.step c s l = some s1) :
    CopyInv fs0 ts ops s1 := by
  rcases L0.step_forms hstep with ⟨op, r, htd, hsync, rfl⟩ | ⟨op, l1, l2, hpd, hdue, hex⟩
  · -- handed over: the file system and the pending operations are the same
    have htodo := hinv.todo
    rw [htd] at htodo
    have hpe : (s.queue ++ [op]) ++ r = s.queue ++ s.todo := by rw [htd, List.append_assoc]; rfl
    refine ⟨hinv.ok, hinv.wf, hinv.out, hinv.base, ?_, ?_, ?_, hinv.kinds, ?_⟩
    · refine TodoOK.mono _ _ _ ?_ htodo.2
      rintro p (hp | ⟨t, ht, _⟩)
      · exact hp
      · rw [ht] at hsync; cases hsync
    · intro y hy t ht
      rcases List.mem_append.1 hy with hy | hy
      · exact hinv.qpar y hy t ht
      · rw [List.mem_singleton.1 hy] at ht
        exact htodo.1 t ht
    · show ∀ y ∈ (s.queue ++ [op]) ++ r, _
      rw [hpe]
      exact hinv.pend
    · show ((s.queue ++ [op]) ++ r).Sublist ops
      rw [hpe]
      exact hinv.sub
  · -- `op` is executed
    have hopp : op ∈ s.queue ++ s.todo := by rw [hpd]; simp
    obtain ⟨g', hx, hout', hdirs, hmade, hfr, hk'⟩ := hinv.exec_one h H0 c hm (hinv.sub.subset hopp)
      (hinv.parent hdue) (hinv.pend op hopp)
    rcases hex with ⟨hnone, _⟩ | ⟨hx1, hf1, hp1, hq1, htd1⟩
    · rw [hx] at hnone; cases hnone
    rw [hx] at hx1
    have hg' : s1.fs = g' := (Option.some.inj hx1).symm
    have hsub : (l1 ++ l2).Sublist (s.queue ++ s.todo) := by
      rw [hpd]
      exact List.Sublist.append_left (List.sublist_cons_self op l2) l1
    have hnotin : op ∉ l1 ++ l2 := by
      have := h.nodup.sublist hinv.sub
      rw [hpd] at this
      exact (List.nodup_cons.1 (List.perm_middle.nodup_iff.1 this)).1
    rw [← hg'] at hx hout' hdirs hmade hfr hk'
    refine ⟨hf1.trans hinv.ok, fun h0 => wf_exec (hinv.wf h0) hx, hout', fun t ht => hdirs _ (hinv.base t ht), ?_,
      fun y hy t ht => hdirs _ (hinv.qpar y (hq1 y hy) t ht), ?_, hk', hp1 ▸ hsub.trans hinv.sub⟩
    · rcases htd1 with htd1 | htd1
      · have htodo := hinv.todo
        rw [htd1] at htodo
        refine TodoOK.mono _ _ _ ?_ htodo.2
        rintro p (hp | ⟨t, ht, hpt⟩)
        · exact hdirs p hp
        · rw [hpt]; exact hmade t ht
      · rw [htd1]
        exact TodoOK.mono _ _ _ hdirs hinv.todo
    · intro y hy t ht
      rw [hp1] at hy
      have hy' := hsub.subset hy
      rw [hfr y (hinv.sub.subset hy') (fun e => hnotin (e ▸ hy)) t ht]
      exact hinv.pend y hy' t ht

theorem CopyInv.run (h : CopySpec fs0 ts d ops)
    (H0 : ∀ t ∈ ts, Head0 fs0 t.E t.T) (c : Cfg)
    (hm : (c.noClobber = false ∧ FsEq fs0 fs0) ∨ ∀ t ∈ ts, fs0.root.getAt t.T = none) :
    ∀ (ls : List Label) (s s' : St), CopyInv fs0 ts ops s → L0.run c s ls = some s' → CopyInv fs0 ts ops s' :=
  L0.run_invariant c _ (CopyInv.step h H0 c hm)

theorem CopyInv.plains (h : CopySpec fs0 ts d ops) (H0 : ∀ t ∈ ts, Head0 fs0 t.E t.T) (hinv : CopyInv fs0 ts ops s) :
    ∀ x ∈ ops, Plains s.fs x := by
  intro x hx
  obtain ⟨t, ht, rel, m, cp, hg, hl, ex, hlf⟩ := h.char x hx
  refine ⟨?_, ?_⟩
  · intro t' ht'
    rw [ex, headOp_target] at ht'
    have := Option.some.inj ht'
    subst this
    rw [plainPath_names]
    refine ⟨hinv.noLinkAbove ht (H0 t ht) hg, ?_⟩
    intro hnl p hp tg hgl
    by_cases hpe : p = t.T ++ rel
    · subst hpe
      rw [ex, headOp_isLinkOp] at hnl
      exact hinv.not_link ht (H0 t ht) hg hnl tg hgl
    · exact hinv.noLinkAbove ht (H0 t ht) hg p hp hpe tg hgl
  · intro sp hs
    rw [ex] at hs
    obtain ⟨e, hmd, hml⟩ := headOp_srcOf _ _ _ _ hs
    subst e
    rw [plainPath_names]
    exact noLinkUpto_of_getAt (hinv.srcAt (hlf hmd hml).1 (hlf hmd hml).2.2) hml

theorem CopyInv.goodAll (h : CopySpec fs0 ts d ops) (H0 : ∀ t ∈ ts, Head0 fs0 t.E t.T) (hinv : CopyInv fs0 ts ops s)
    (op : Op) (r : List Op) (htd : s.todo = op :: r) : GoodAllD ops s.fs op := by
  refine ⟨?_, hinv.plains h H0⟩
  have hopp : op ∈ s.queue ++ s.todo := by rw [htd]; simp
  obtain ⟨t, ht, rel, m, cp, hg, hl, ex, hlf⟩ := h.char op (hinv.sub.subset hopp)
  have htgt : opTarget op = some (plainPath (t.T ++ rel)) := by rw [ex, headOp_target]
  refine ⟨?_, ⟨plainPath (t.T ++ rel), htgt, ?_, ?_, ?_, ?_⟩, ?_⟩
  · obtain ⟨es, hes⟩ := hinv.base t ht
    obtain ⟨es', hes'⟩ := getAt_prefix_dir hes List.nil_prefix
    simp only [getAt_nil, Option.some.injEq] at hes'
    rw [hes']; rfl
  · refine ⟨rfl, rfl, (plainPath_namesOnly _).2.2, ?_⟩
    rw [plainPath_names]
    intro p hp tg hgl
    by_cases hpe : p = t.T ++ rel
    · subst hpe
      -- pending: the place shows what the initial destination showed, which is not a link
      have := hinv.pend op hopp _ htgt
      rw [plainPath_names] at this
      rw [getAt_link_iff, this] at hgl
      have h0 := H0 t ht rel m hg
      rw [hgl] at h0
      exact headOK_link_false h0
    · exact hinv.noLinkAbove ht (H0 t ht) hg p hp hpe tg hgl
  · rw [plainPath_names]
    intro h0
    exact h.tne t ht (List.append_eq_nil_iff.1 h0).1
  · rw [plainPath_names, List.length_append]
    exact Nat.lt_of_le_of_lt (Nat.add_le_add_left hl _) (h.lenT t ht)
  · exact hinv.parent (.inl ⟨r, htd⟩) _ htgt
  · intro sp hs
    rw [ex] at hs
    obtain ⟨e, hmd, hml⟩ := headOp_srcOf _ _ _ _ hs
    subst e
    have hsm : s.fs.root.getAt cp = some m := hinv.srcAt (hlf hmd hml).1 (hlf hmd hml).2.2
    refine ⟨⟨rfl, rfl, (plainPath_namesOnly _).2.2, ?_⟩, ?_⟩
    · rw [plainPath_names]; exact noLinkUpto_of_getAt hsm hml
    · rw [plainPath_names]; exact ⟨m, hsm⟩

theorem CopyInv.pending_absent (h : CopySpec fs0 ts d ops) (habs : ∀ t ∈ ts, fs0.root.getAt t.T = none)
    (hinv : CopyInv fs0 ts ops s) (x : Op) (hx : x ∈ s.queue ++ s.todo) (t : RPath) (ht : opTarget x = some t) :
    s.fs.lexists t = false := by
  obtain ⟨u, hu, rel, m, cp, hg, _, ex, _⟩ := h.char x (hinv.sub.subset hx)
  have hp := hinv.pend x hx t ht
  rw [ex, headOp_target] at ht
  have := Option.some.inj ht
  subst this
  rw [plainPath_names] at hp
  apply lexists_false_of_absent _ _ (hinv.noLinkAbove hu (head0_of_absent (habs u hu)) hg)
  rw [← obsAt_eq_none, hp, obsAt_eq_none]
  exact getAt_append_none _ _ _ (habs u hu)

theorem run_ok_and_refines (h : CopySpec fs0 ts d ops)
    (H0 : ∀ t ∈ ts, Head0 fs0 t.E t.T) (c : Cfg) (hwf : FsEq fs0 fs0)
    (hn : c.noClobber = false ∨ ∀ t ∈ ts, fs0.root.getAt t.T = none)
    (hbase : ∀ t ∈ ts, ParentDir fs0.root t.T) (htodo : TodoOK (DirsOf fs0) ops)
    {fs' : Fs} (hseq : execOps fs0 c ops = ⟨.ok, fs'⟩)
    (ls : List Label) (st : St) (hrun : run c (init fs0 ops) ls = some st) :
    st.failed = false ∧ (final st = true → FsEq st.fs fs') := by
  have hreach : ∀ (ls : List Label) (s : St), run c (init fs0 ops) ls = some s → CopyInv fs0 ts ops s :=
    fun ls s hr => CopyInv.run h H0 c (hn.imp_left fun hn => ⟨hn, hwf⟩) ls _ s (CopyInv.init hbase htodo) hr
  have hok := (hreach ls st hrun).ok
  refine ⟨hok, fun hfin => ?_⟩
  obtain ⟨f, hf, hfe⟩ := fs_run_refines_sequentialD c fs0 ops hwf h.nodup h.pairIndep
    (fun ls s op r hr _ htd _ => (hreach ls s hr).goodAll h H0 op r htd) ls st hrun hfin hok
  rw [execOps_seqExec c ops fs0 fs' hseq] at hf
  exact (Option.some.inj hf ▸ hfe).symm

theorem run_fresh_preserves (h : CopySpec fs0 ts d ops)
    (habs : ∀ t ∈ ts, fs0.root.getAt t.T = none) (c : Cfg)
    (hbase : ∀ t ∈ ts, ParentDir fs0.root t.T) (htodo : TodoOK (DirsOf fs0) ops)
    (ls : List Label) (st : St) (hrun : run c (init fs0 ops) ls = some st) :
    Preserved fs0.root st.fs.root ∧
    (∀ op ∈ st.queue, ∀ t, opTarget op = some t → st.fs.lexists t = false) ∧
    (∀ op r, st.todo = op :: r → ∀ t, opTarget op = some t → st.fs.lexists t = false) ∧
    st.failed = false := by
  have H0 : ∀ t ∈ ts, Head0 fs0 t.E t.T := fun t ht => head0_of_absent (habs t ht)
  obtain ⟨hinv, hpres⟩ := L0.run_preserved (CopyInv.step h H0 c (.inr habs))
    (fun s hs => hs.pending_absent h habs) (init fs0 ops) ls _ st ⟨CopyInv.init hbase htodo, Preserved.refl _⟩ hrun
  refine ⟨hpres, ?_, ?_, hinv.ok⟩
  · intro op hop t ht
    exact hinv.pending_absent h habs op (List.mem_append_left _ hop) t ht
  · intro op r htd t ht
    exact hinv.pending_absent h habs op (List.mem_append_right _ (by rw [htd]; simp)) t ht

theorem copy_freshRun (h : CopySpec fs0 ts d ops) (habs : ∀ t ∈ ts, fs0.root.getAt t.T = none) (c : Cfg)
    (hbase : ∀ t ∈ ts, ParentDir fs0.root t.T) (htodo : TodoOK (DirsOf fs0) ops) : FreshRun fs0 c ops := by
  apply freshRun_of_reach
  intro ls s hr
  have := run_fresh_preserves h habs c hbase htodo ls s hr
  exact ⟨this.2.1, this.2.2.1⟩

end Xcp
