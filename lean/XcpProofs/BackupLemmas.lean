import XcpModel.Backup
/-! Numbered backups: the recogniser accepts exactly `<base>.~N~`; the chosen name is fresh and its number
exceeds every existing one; histories of copies never lose or modify a version. -/
namespace Xcp

theorem isDigit_iff (b : UInt8) : isDigit b = true ↔ 48 ≤ b.toNat ∧ b.toNat ≤ 57 := by
  simp [isDigit, UInt8.le_iff_toNat_le]

theorem isDigit_ne_tilde (b : UInt8) (h : isDigit b = true) : b ≠ 126 := by
  intro e; subst e; revert h; decide

theorem digitsVal_append_single (ds : List UInt8) (d : UInt8) :
    digitsVal (ds ++ [d]) = digitsVal ds * 10 + (d.toNat - 48) := by
  unfold digitsVal
  rw [List.foldl_append]
  rfl

theorem digit_ofNat (k : Nat) (h : k < 10) :
    isDigit (UInt8.ofNat (48 + k)) = true ∧ (UInt8.ofNat (48 + k)).toNat - 48 = k := by
  have hlt : 48 + k < 256 := Nat.lt_of_lt_of_le (Nat.add_lt_add_left h 48) (by decide)
  rw [isDigit_iff, UInt8.toNat_ofNat', Nat.mod_eq_of_lt hlt, Nat.add_sub_cancel_left]
  exact ⟨⟨Nat.le_add_right 48 k, Nat.add_le_add_left (Nat.le_of_lt_succ h) 48⟩, rfl⟩

theorem digitsRev_spec : ∀ (f n : Nat), n < f →
    digitsRev f n ≠ [] ∧ (digitsRev f n).all isDigit = true ∧ digitsVal (digitsRev f n).reverse = n := by
  intro f
  induction f with
  | zero => intro n h; exact absurd h (Nat.not_lt_zero n)
  | succ f ih =>
    intro n h
    unfold digitsRev
    by_cases h10 : n < 10
    · obtain ⟨hd, hv⟩ := digit_ofNat n h10
      rw [if_pos h10]
      refine ⟨List.cons_ne_nil _ _, ?_, ?_⟩
      · rw [List.all_cons, hd]
        rfl
      · rw [List.reverse_cons, digitsVal_append_single, hv]
        exact Nat.zero_add n
    · obtain ⟨hd, hv⟩ := digit_ofNat (n % 10) (Nat.mod_lt n (by decide))
      have hpos : 0 < n := Nat.lt_of_lt_of_le (by decide) (Nat.le_of_not_lt h10)
      obtain ⟨_, h2, h3⟩ :=
        ih (n / 10) (Nat.lt_of_lt_of_le (Nat.div_lt_self hpos (by decide)) (Nat.le_of_lt_succ h))
      rw [if_neg h10]
      refine ⟨List.cons_ne_nil _ _, ?_, ?_⟩
      · rw [List.all_cons, hd, h2]
        rfl
      · rw [List.reverse_cons, digitsVal_append_single, h3, hv]
        exact Nat.div_add_mod' n 10

theorem decimal_spec (n : Nat) : decimal n ≠ [] ∧ (decimal n).all isDigit = true ∧ digitsVal (decimal n) = n := by
  obtain ⟨h1, h2, h3⟩ := digitsRev_spec (n + 1) n (Nat.lt_succ_self n)
  refine ⟨?_, ?_, h3⟩
  · simpa [decimal] using h1
  · simpa [decimal] using h2

theorem stripPrefix_eq_some (base cand r : Name) : stripPrefix base cand = some r ↔ cand = base ++ r := by
  induction base generalizing cand with
  | nil => simp [stripPrefix, eq_comm]
  | cons b bs ih =>
    cases cand with
    | nil => simp [stripPrefix]
    | cons c cs =>
      simp only [stripPrefix]
      by_cases h : b = c
      · subst h; simp [ih]
      · simp [h]; intro e; exact absurd e.symm h

theorem stripPrefix_append (base r : Name) : stripPrefix base (base ++ r) = some r :=
  (stripPrefix_eq_some base _ r).2 rfl

theorem parseTilde_wrap (ds : List UInt8) :
    parseTilde (126 :: (ds ++ [126])) =
      if (ds ≠ [] && ds.all isDigit && digitsVal ds < 2^64) = true then some (digitsVal ds) else none := by
  simp only [parseTilde, List.reverse_append, List.reverse_cons, List.reverse_nil, List.nil_append,
    List.singleton_append, List.reverse_reverse]

theorem parseTilde_shape (ext : List UInt8) (n : Nat) (h : parseTilde ext = some n) :
    ∃ ds, ext = 126 :: (ds ++ [126]) := by
  unfold parseTilde at h
  split at h
  · split at h
    · rename_i rest _ dsr heq
      refine ⟨dsr.reverse, ?_⟩
      have := congrArg List.reverse heq
      simp at this
      simp [this]
    · cases h
  · cases h

theorem parseTilde_eq_some (ext : List UInt8) (n : Nat) :
    parseTilde ext = some n ↔
      ∃ ds : List UInt8, ds ≠ [] ∧ ds.all isDigit = true ∧ ext = 126 :: (ds ++ [126]) ∧
        digitsVal ds = n ∧ n < 2^64 := by
  constructor
  · intro h
    obtain ⟨ds, rfl⟩ := parseTilde_shape ext n h
    rw [parseTilde_wrap] at h
    split at h
    · rename_i hc
      simp only [Bool.and_eq_true, decide_eq_true_eq] at hc
      cases h
      exact ⟨ds, hc.1.1, hc.1.2, rfl, rfl, hc.2⟩
    · cases h
  · rintro ⟨ds, h1, h2, rfl, rfl, h5⟩
    rw [parseTilde_wrap, if_pos]
    simp [h1, h2, h5]

theorem isNumBackup_iff (base cand : Name) (n : Nat) :
    isNumBackup base cand = some n ↔
      ∃ ds : List UInt8, ds ≠ [] ∧ ds.all isDigit = true ∧ cand = base ++ [46, 126] ++ ds ++ [126] ∧
        digitsVal ds = n ∧ n < 2^64 := by
  constructor
  · intro h
    unfold isNumBackup at h
    split at h
    · rename_i ext hsp
      rw [stripPrefix_eq_some] at hsp
      obtain ⟨ds, h1, h2, rfl, h4, h5⟩ := (parseTilde_eq_some ext n).1 h
      exact ⟨ds, h1, h2, by simp [hsp], h4, h5⟩
    · cases h
  · rintro ⟨ds, h1, h2, rfl, h4, h5⟩
    unfold isNumBackup
    rw [List.append_assoc, List.append_assoc, stripPrefix_append]
    exact (parseTilde_eq_some _ n).2 ⟨ds, h1, h2, rfl, h4, h5⟩

theorem isNumBackup_backupName (base : Name) (n : Nat) (h : n < 2^64) :
    isNumBackup base (backupName base n) = some n := by
  obtain ⟨h1, h2, h3⟩ := decimal_spec n
  exact (isNumBackup_iff base _ n).2 ⟨decimal n, h1, h2, rfl, h3, h⟩

theorem backupName_inj (base : Name) (n m : Nat) (h : backupName base n = backupName base m) : n = m := by
  have hd : decimal n = decimal m := by simpa [backupName] using h
  have := congrArg digitsVal hd
  rwa [(decimal_spec n).2.2, (decimal_spec m).2.2] at this

theorem backupName_ne (base : Name) (n : Nat) : backupName base n ≠ base := by
  intro h
  have := congrArg List.length h
  simp [backupName] at this

theorem isNumBackup_self (name : Name) : isNumBackup name name = none := by
  cases h : isNumBackup name name with
  | none => rfl
  | some n =>
    obtain ⟨ds, _, _, he, _⟩ := (isNumBackup_iff name name n).1 h
    have := congrArg List.length he
    simp at this

theorem maxList_le_iff (l : List Nat) (b : Nat) : maxList l ≤ b ↔ ∀ m ∈ l, m ≤ b := by
  induction l with
  | nil => simp [maxList]
  | cons x r ih => simp [maxList, Nat.max_le, ih]

theorem nextBackupNum_eq_some (dir : List Name) (base : Name) (N : Nat) (h : nextBackupNum dir base = some N) :
    N = maxList (backupNums dir base) + 1 ∧ N < 2^64 := by
  unfold nextBackupNum at h
  simp only at h
  split at h
  · cases h; exact ⟨rfl, by assumption⟩
  · cases h

theorem nextBackupNum_greater (dir : List Name) (base : Name) (N : Nat) (h : nextBackupNum dir base = some N) :
    ∀ c ∈ dir, ∀ m, isNumBackup base c = some m → m < N := by
  intro c hc m hm
  obtain ⟨rfl, _⟩ := nextBackupNum_eq_some dir base N h
  have : m ∈ backupNums dir base := List.mem_filterMap.2 ⟨c, hc, hm⟩
  exact Nat.lt_succ_of_le ((maxList_le_iff _ _).1 (Nat.le_refl _) m this)

theorem nextBackupNum_fresh (dir : List Name) (base : Name) (N : Nat) (h : nextBackupNum dir base = some N) :
    backupName base N ∉ dir := by
  intro hin
  have hN := (nextBackupNum_eq_some dir base N h).2
  exact Nat.lt_irrefl N (nextBackupNum_greater dir base N h _ hin N (isNumBackup_backupName base N hN))

theorem Dir.get_cons (k' : Name) (v : List UInt8) (r : Dir) (k : Name) :
    Dir.get ((k', v) :: r) k = if k' = k then some v else Dir.get r k := rfl

theorem Dir.get_erase (d : Dir) (a k : Name) : (d.erase a).get k = if k = a then none else d.get k := by
  induction d with
  | nil => simp [Dir.erase, Dir.get]
  | cons kv r ih =>
    obtain ⟨k', v⟩ := kv
    unfold Dir.erase at ih ⊢
    by_cases hk : k' = a
    · subst hk
      simp only [List.filter_cons, ne_eq, not_true_eq_false, decide_false, Bool.false_eq_true, if_false, ih, Dir.get]
      by_cases hka : k = k'
      · subst hka; simp
      · have : ¬ k' = k := fun e => hka e.symm
        simp [hka, this]
    · simp only [List.filter_cons, ne_eq, hk, not_false_eq_true, decide_true, if_true, Dir.get, ih]
      by_cases hkk : k' = k
      · subst hkk; simp [hk]
      · simp [hkk]

theorem Dir.get_set (d : Dir) (n : Name) (v : List UInt8) (k : Name) :
    (d.set n v).get k = if k = n then some v else d.get k := by
  unfold Dir.set
  simp only [Dir.get, Dir.get_erase]
  by_cases h : n = k
  · subst h; simp
  · have : ¬ k = n := fun e => h e.symm
    simp [h, this]

theorem Dir.rename_of_none (d : Dir) (a b : Name) (h : d.get a = none) : d.rename a b = d := by
  simp [Dir.rename, h]

theorem Dir.get_rename (d : Dir) (a b k : Name) (v : List UInt8) (h : d.get a = some v) :
    (d.rename a b).get k = if k = b then some v else if k = a then none else d.get k := by
  simp only [Dir.rename, h, Dir.get_set, Dir.get_erase]

theorem Dir.get_eq_none_iff (d : Dir) (k : Name) : d.get k = none ↔ k ∉ d.names := by
  induction d with
  | nil => exact ⟨fun _ => List.not_mem_nil, fun _ => rfl⟩
  | cons kv r ih =>
    obtain ⟨k', v⟩ := kv
    show (if k' = k then some v else Dir.get r k) = none ↔ k ∉ k' :: Dir.names r
    rw [List.mem_cons, not_or]
    by_cases h : k' = k
    · rw [if_pos h]
      exact ⟨nofun, fun e => absurd h.symm e.1⟩
    · rw [if_neg h, ih]
      exact ⟨fun e => ⟨fun e' => h e'.symm, e⟩, fun e => e.2⟩

theorem Dir.mem_names_iff (d : Dir) (k : Name) : k ∈ d.names ↔ ∃ v, d.get k = some v := by
  cases hg : d.get k with
  | none => exact ⟨fun hm => absurd hm ((Dir.get_eq_none_iff d k).1 hg), fun ⟨_, hv⟩ => nomatch hv⟩
  | some v =>
    refine ⟨fun _ => ⟨v, rfl⟩, fun _ => Decidable.not_not.1 (fun hn => ?_)⟩
    rw [(Dir.get_eq_none_iff d k).2 hn] at hg
    cases hg

theorem Dir.nodup_erase (d : Dir) (a : Name) (h : d.names.Nodup) : (d.erase a).names.Nodup :=
  List.Nodup.sublist (List.Sublist.map _ List.filter_sublist) h

theorem Dir.nodup_set (d : Dir) (n : Name) (v : List UInt8) (h : d.names.Nodup) : (d.set n v).names.Nodup := by
  have h1 : n ∉ (d.erase n).names := by
    rw [← Dir.get_eq_none_iff, Dir.get_erase]; simp
  have h2 := Dir.nodup_erase d n h
  unfold Dir.set Dir.names at *
  simp only [List.map_cons, List.nodup_cons]
  exact ⟨h1, h2⟩

theorem Dir.nodup_rename (d : Dir) (a b : Name) (h : d.names.Nodup) : (d.rename a b).names.Nodup := by
  unfold Dir.rename
  split
  · exact Dir.nodup_set _ _ _ (Dir.nodup_erase _ _ h)
  · exact h

theorem Dir.nodup_step (d : Dir) (s : BStep) (h : d.names.Nodup) : (d.step s).names.Nodup := by
  cases s with
  | rename a b => exact Dir.nodup_rename d a b h
  | createTrunc n => exact Dir.nodup_set d n [] h
  | fill n c => exact Dir.nodup_set d n c h

theorem runSteps_nodup (l : List BStep) (d : Dir) (h : d.names.Nodup) : (runSteps d l).names.Nodup := by
  induction l generalizing d with
  | nil => exact h
  | cons s l ih => exact ih (d.step s) (Dir.nodup_step d s h)

theorem copyOnce_nodup (d : Dir) (op : BackupMode × Name × List UInt8) (h : d.names.Nodup) :
    (copyOnce d op).names.Nodup := by
  unfold copyOnce
  split
  · exact runSteps_nodup _ d h
  · exact h

theorem runHistory_nodup (h : List (BackupMode × Name × List UInt8)) (d : Dir) (hd : d.names.Nodup) :
    (runHistory d h).names.Nodup := by
  induction h generalizing d with
  | nil => exact hd
  | cons op h ih => exact ih (copyOnce d op) (copyOnce_nodup d op hd)

theorem needsBackup_get {d : Dir} {mode : BackupMode} {name : Name}
    (h : needsBackup mode (d.get name).isSome d.names name = true) : ∃ old, d.get name = some old := by
  cases hg : d.get name with
  | some old => exact ⟨old, rfl⟩
  | none => cases mode <;> simp [needsBackup, hg] at h

theorem copySteps_backup {d : Dir} {mode : BackupMode} {name : Name} (new : List UInt8) {N : Nat}
    (h : needsBackup mode (d.get name).isSome d.names name = true) (hN : nextBackupNum d.names name = some N) :
    copySteps d mode name new = some [.rename name (backupName name N), .createTrunc name, .fill name new] := by
  simp [copySteps, h, hN]

theorem copySteps_refused {d : Dir} {mode : BackupMode} {name : Name} (new : List UInt8)
    (h : needsBackup mode (d.get name).isSome d.names name = true) (hN : nextBackupNum d.names name = none) :
    copySteps d mode name new = none := by
  simp [copySteps, h, hN]

theorem copySteps_nobackup {d : Dir} {mode : BackupMode} {name : Name} (new : List UInt8)
    (h : needsBackup mode (d.get name).isSome d.names name = false) :
    copySteps d mode name new = some [.createTrunc name, .fill name new] := by
  simp [copySteps, h]

theorem runSteps_nobackup_take (d : Dir) (name : Name) (new : List UInt8) (i : Nat) (k : Name) (hk : k ≠ name) :
    (runSteps d (List.take i [.createTrunc name, .fill name new])).get k = d.get k := by
  rcases i with _ | _ | i <;> simp [runSteps, Dir.step, Dir.get_set, hk]

/-- every kill point of the three-step sequence with backup: after the `rename` the old content is under `bn`,
and the remaining steps write `name` only -/
theorem runSteps_backup_take (d : Dir) (name bn : Name) (old new : List UInt8) (hold : d.get name = some old)
    (hbn : bn ≠ name) (i : Nat) :
    let d' := runSteps d (List.take i [.rename name bn, .createTrunc name, .fill name new])
    (d'.get name = some old ∨ d'.get bn = some old) ∧
      (∀ k, k ≠ name → k ≠ bn → d'.get k = d.get k) := by
  cases i with
  | zero => exact ⟨.inl hold, fun _ _ _ => rfl⟩
  | succ i =>
    have h : ∀ k, k ≠ name →
        (runSteps (d.rename name bn) (List.take i [.createTrunc name, .fill name new])).get k =
          if k = bn then some old else d.get k := by
      intro k hk
      rw [runSteps_nobackup_take _ name new i k hk, Dir.get_rename d name bn k old hold, if_neg hk]
    refine ⟨.inr ?_, fun k h1 h2 => ?_⟩
    · exact (h bn hbn).trans (if_pos rfl)
    · exact (h k h1).trans (if_neg h2)

theorem copyOnce_backup_get {d : Dir} {mode : BackupMode} {name : Name} {old : List UInt8} (new : List UInt8) {N : Nat}
    (h : needsBackup mode (d.get name).isSome d.names name = true) (hN : nextBackupNum d.names name = some N)
    (hold : d.get name = some old) (k : Name) :
    (copyOnce d (mode, name, new)).get k =
      if k = name then some new else if k = backupName name N then some old else d.get k := by
  have hbn := backupName_ne name N
  simp only [copyOnce, copySteps_backup new h hN, runSteps, List.foldl, Dir.step,
    Dir.get_rename _ _ _ _ _ hold, Dir.get_set]
  by_cases h1 : k = name <;> by_cases h2 : k = backupName name N <;> simp [h1, h2, hbn]

theorem copyOnce_nobackup_get {d : Dir} {mode : BackupMode} {name : Name} (new : List UInt8)
    (h : needsBackup mode (d.get name).isSome d.names name = false) (k : Name) :
    (copyOnce d (mode, name, new)).get k = if k = name then some new else d.get k := by
  simp only [copyOnce, copySteps_nobackup new h, runSteps, List.foldl, Dir.step, Dir.get_set]
  by_cases h1 : k = name <;> simp [h1]

theorem copyOnce_refused {d : Dir} {mode : BackupMode} {name : Name} (new : List UInt8)
    (h : needsBackup mode (d.get name).isSome d.names name = true) (hN : nextBackupNum d.names name = none) :
    copyOnce d (mode, name, new) = d := by
  simp only [copyOnce, copySteps_refused new h hN]

theorem backup_target_absent {d : Dir} {name : Name} {N : Nat} (hN : nextBackupNum d.names name = some N) :
    d.get (backupName name N) = none :=
  (Dir.get_eq_none_iff d _).2 (nextBackupNum_fresh d.names name N hN)

theorem Dir.mem_iff_get (d : Dir) (h : d.names.Nodup) (k : Name) (v : List UInt8) :
    (k, v) ∈ d ↔ d.get k = some v := by
  induction d with
  | nil => exact ⟨nofun, nofun⟩
  | cons kv r ih =>
    obtain ⟨k', v'⟩ := kv
    have hnd : k' ∉ Dir.names r ∧ (Dir.names r).Nodup := List.nodup_cons.1 h
    rw [List.mem_cons, Dir.get_cons]
    by_cases hk : k' = k
    · subst hk
      rw [if_pos rfl]
      have hnot : (k', v) ∉ r := fun hm => hnd.1 (List.mem_map.2 ⟨(k', v), hm, rfl⟩)
      constructor
      · rintro (e | e)
        · cases e; rfl
        · exact absurd e hnot
      · intro e; cases e; exact .inl rfl
    · rw [if_neg hk, ← ih hnd.2]
      constructor
      · rintro (e | e)
        · cases e; exact absurd rfl hk
        · exact e
      · exact .inr

/-- nothing appears except under the target name and (when a backup is taken) the fresh backup name -/
theorem copyOnce_get_elsewhere (d : Dir) (mode : BackupMode) (name new : List UInt8) (k : Name)
    (hne : k ≠ name) (hnb : ∀ N, nextBackupNum d.names name = some N → k ≠ backupName name N) :
    (copyOnce d (mode, name, new)).get k = d.get k := by
  cases hb : needsBackup mode (d.get name).isSome d.names name with
  | false => rw [copyOnce_nobackup_get new hb]; simp [hne]
  | true =>
    cases hN : nextBackupNum d.names name with
    | none => rw [copyOnce_refused new hb hN]
    | some N =>
      obtain ⟨old, hold⟩ := needsBackup_get hb
      rw [copyOnce_backup_get new hb hN hold]; simp [hne, hnb N hN]

/-- one copy never modifies, replaces or removes an entry other than its own target; in particular the
backup name it renames to is fresh (`backup_target_absent`), so no existing `name.~m~` is overwritten. -/
theorem copyOnce_preserves_others (d : Dir) (op : BackupMode × Name × List UInt8) (k : Name) (v : List UInt8)
    (hk : d.get k = some v) (hne : k ≠ op.2.1) : (copyOnce d op).get k = some v := by
  obtain ⟨mode, name, new⟩ := op
  refine (copyOnce_get_elsewhere d mode name new k hne (fun N hN e => ?_)).trans hk
  rw [e, backup_target_absent hN] at hk
  cases hk

/-- the same for list entries of a directory with distinct keys -/
theorem copyOnce_preserves_other_entries (d : Dir) (hd : d.names.Nodup) (op : BackupMode × Name × List UInt8)
    (k : Name) (v : List UInt8) (hk : (k, v) ∈ d) (hne : k ≠ op.2.1) : (k, v) ∈ copyOnce d op := by
  rw [Dir.mem_iff_get _ (copyOnce_nodup d op hd)]
  exact copyOnce_preserves_others d op k v ((Dir.mem_iff_get d hd k v).1 hk) hne

/-- numbered mode: the new content is installed, the old content survives under a backup name that did not
exist before and whose number exceeds every backup number present before; everything else is unchanged. -/
theorem copyOnce_numbered_keeps_old (d : Dir) (name old new : List UInt8) (N : Nat)
    (hold : d.get name = some old) (hN : nextBackupNum d.names name = some N) :
    (copyOnce d (.numbered, name, new)).get name = some new ∧
    (copyOnce d (.numbered, name, new)).get (backupName name N) = some old ∧
    d.get (backupName name N) = none ∧
    (∀ c ∈ d.names, ∀ m, isNumBackup name c = some m → m < N) ∧
    (∀ k, k ≠ name → k ≠ backupName name N → (copyOnce d (.numbered, name, new)).get k = d.get k) := by
  have hb : needsBackup .numbered (d.get name).isSome d.names name = true := by simp [needsBackup, hold]
  refine ⟨?_, ?_, backup_target_absent hN, nextBackupNum_greater d.names name N hN, ?_⟩
  · rw [copyOnce_backup_get new hb hN hold]; simp
  · rw [copyOnce_backup_get new hb hN hold]; simp [backupName_ne]
  · intro k h1 h2; rw [copyOnce_backup_get new hb hN hold]; simp [h1, h2]

theorem prefix_backupName (k : Name) (N : Nat) : k <+: backupName k N := by
  unfold backupName
  rw [List.append_assoc, List.append_assoc]
  exact List.prefix_append _ _

/-- the fate of an entry `(k, v)` under one copy: it stays where it is unless `k` is the target;
if `k` is the target and the mode asks for a backup, it moves to the fresh name `backupName k N`, or the copy is
refused (overflow) and nothing changes. -/
theorem copyOnce_entry_fate (d : Dir) (op : BackupMode × Name × List UInt8) (k : Name) (v : List UInt8)
    (hk : d.get k = some v) :
    (k ≠ op.2.1 → (copyOnce d op).get k = some v) ∧
    (k = op.2.1 → needsBackup op.1 true d.names k = true →
      (∀ N, nextBackupNum d.names k = some N →
        d.get (backupName k N) = none ∧ (copyOnce d op).get (backupName k N) = some v) ∧
      (nextBackupNum d.names k = none → copyOnce d op = d)) := by
  refine ⟨copyOnce_preserves_others d op k v hk, ?_⟩
  obtain ⟨mode, name, new⟩ := op
  rintro rfl hb
  have hb' : needsBackup mode (d.get k).isSome d.names k = true := by simpa [hk] using hb
  refine ⟨fun N hN => ⟨backup_target_absent hN, ?_⟩, fun hN => copyOnce_refused new hb' hN⟩
  rw [copyOnce_backup_get new hb' hN hk]; simp [backupName_ne]

/-- if the copy does not destroy `k` without backup, the content `v` survives
under a name extending `k` -/
theorem copyOnce_keeps_version (d : Dir) (op : BackupMode × Name × List UInt8) (k : Name) (v : List UInt8)
    (hk : d.get k = some v) (hsafe : op.2.1 = k → needsBackup op.1 true d.names k = true) :
    ∃ k', k <+: k' ∧ (copyOnce d op).get k' = some v := by
  obtain ⟨h1, h2⟩ := copyOnce_entry_fate d op k v hk
  by_cases hkn : k = op.2.1
  · obtain ⟨h3, h4⟩ := h2 hkn (hsafe hkn.symm)
    cases hN : nextBackupNum d.names k with
    | none => exact ⟨k, List.prefix_refl k, by rw [h4 hN]; exact hk⟩
    | some N => exact ⟨backupName k N, prefix_backupName k N, (h3 N hN).2⟩
  · exact ⟨k, List.prefix_refl k, h1 hkn⟩

theorem runHistory_cons (d : Dir) (op : BackupMode × Name × List UInt8) (h : List (BackupMode × Name × List UInt8)) :
    runHistory d (op :: h) = runHistory (copyOnce d op) h := rfl

theorem runHistory_append (d : Dir) (h₁ h₂ : List (BackupMode × Name × List UInt8)) :
    runHistory d (h₁ ++ h₂) = runHistory (runHistory d h₁) h₂ := by
  simp [runHistory, List.foldl_append]

/-- an entry whose name is never the target of an operation survives any history unchanged -/
theorem runHistory_preserves_untargeted (h : List (BackupMode × Name × List UInt8)) (d : Dir) (k : Name)
    (v : List UInt8) (hk : d.get k = some v) (hne : ∀ op ∈ h, op.2.1 ≠ k) : (runHistory d h).get k = some v := by
  induction h generalizing d with
  | nil => exact hk
  | cons op h ih =>
    rw [runHistory_cons]
    refine ih _ (copyOnce_preserves_others d op k v hk ?_) (fun o ho => hne o (List.mem_cons_of_mem _ ho))
    exact fun e => hne op (List.mem_cons_self) e.symm

/-- a version overwritten by an operation that takes a backup (`.numbered`, or `.auto` with an existing backup)
is kept under the backup name through the whole rest of the history, as long as no later operation targets
that backup name itself. `rest` is arbitrary, so this speaks about every later directory. -/
theorem runHistory_version_kept (pre rest : List (BackupMode × Name × List UInt8)) (d : Dir) (mode : BackupMode)
    (name new c : List UInt8) (N : Nat)
    (hc : (runHistory d pre).get name = some c)
    (hb : needsBackup mode true (runHistory d pre).names name = true)
    (hN : nextBackupNum (runHistory d pre).names name = some N)
    (hrest : ∀ op ∈ rest, op.2.1 ≠ backupName name N) :
    (runHistory d pre).get (backupName name N) = none ∧
    (runHistory d (pre ++ (mode, name, new) :: rest)).get (backupName name N) = some c := by
  refine ⟨backup_target_absent hN, ?_⟩
  rw [runHistory_append, runHistory_cons]
  refine runHistory_preserves_untargeted rest _ _ c ?_ hrest
  exact ((copyOnce_entry_fate _ (mode, name, new) name c hc).2 rfl hb).1 N hN |>.2

/-- a history of numbered-mode copies never loses any content at all: whatever was stored under `k` is still
stored, under a name that extends `k` (by backup suffixes), after the whole history (overflowing copies are refused
and change nothing). -/
theorem runHistory_numbered_never_loses (h : List (BackupMode × Name × List UInt8)) (d : Dir)
    (hall : ∀ op ∈ h, op.1 = BackupMode.numbered) (k : Name) (v : List UInt8) (hk : d.get k = some v) :
    ∃ k', k <+: k' ∧ (runHistory d h).get k' = some v := by
  induction h generalizing d k with
  | nil => exact ⟨k, List.prefix_refl k, hk⟩
  | cons op h ih =>
    have hop : op.1 = BackupMode.numbered := hall op List.mem_cons_self
    obtain ⟨k₁, hp₁, hk₁⟩ := copyOnce_keeps_version d op k v hk (by intro _; rw [hop]; rfl)
    obtain ⟨k₂, hp₂, hk₂⟩ := ih (copyOnce d op) (fun o ho => hall o (List.mem_cons_of_mem _ ho)) k₁ hk₁
    exact ⟨k₂, List.IsPrefix.trans hp₁ hp₂, hk₂⟩

end Xcp
