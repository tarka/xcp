import XcpProofs.Merge
/-! The FIEMAP paging loop; the SEEK_DATA/SEEK_HOLE segment loop; the executable layout oracle. -/
namespace Xcp

theorem lastOf_eq_getLast? {α} (l : List α) : lastOf l = l.getLast? := by
  induction l with
  | nil => rfl
  | cons a r ih =>
    cases r with
    | nil => rfl
    | cons b r' => simp [lastOf, ih]

theorem WF_stop_lt {e : Extent} {l : List Extent} (hw : WF (e :: l)) : ∀ x ∈ l, e.stop < x.stop := by
  induction l generalizing e with
  | nil => simp
  | cons f r ih =>
    obtain ⟨_, hef, hw'⟩ := hw
    have hf := WF_head hw'
    intro x hx
    rcases List.mem_cons.mp hx with rfl | hx
    · omega
    · have := ih hw' x hx
      omega

/-- restarting FIEMAP at the stop of an extent yields exactly what follows that extent -/
theorem WF_dropWhile (P B : List Extent) (le : Extent) (hw : WF (P ++ le :: B)) :
    (P ++ le :: B).dropWhile (fun e => decide (e.stop ≤ le.stop)) = B := by
  induction P with
  | nil =>
    simp only [List.nil_append] at hw ⊢
    rw [List.dropWhile_cons_of_pos (by simp)]
    cases B with
    | nil => rfl
    | cons b B' =>
      have := WF_stop_lt hw b (by simp)
      rw [List.dropWhile_cons_of_neg (by simp; omega)]
  | cons a P ih =>
    simp only [List.cons_append] at hw ⊢
    have := WF_stop_lt hw le (by simp)
    rw [List.dropWhile_cons_of_pos (by simp; omega)]
    exact ih (WF_tail hw)

/-- the page FIEMAP answers when `rest` is what remains after `fm_start` -/
def pageOf (rest : List Extent) (slots : Nat) : List (Extent × Bool) :=
  ((List.range (rest.take slots).length).zip (rest.take slots)).map
    fun (i, e) => (e, decide (i + 1 = rest.length))

theorem fiemapOf_eq (all : List Extent) (slots fmStart : Nat) :
    fiemapOf all slots fmStart
      = some (pageOf (all.dropWhile (fun e => decide (e.stop ≤ fmStart))) slots) := rfl

theorem zipRange_concat {α β} (g : Nat × α → β) (P : List α) (x : α) :
    ((List.range (P ++ [x]).length).zip (P ++ [x])).map g
      = ((List.range P.length).zip P).map g ++ [g (P.length, x)] := by
  rw [List.length_append, List.length_singleton, List.range_succ,
    List.zip_append (by simp), List.map_append]
  rfl

theorem pageOf_map_fst (rest : List Extent) (slots : Nat) :
    (pageOf rest slots).map (·.1) = rest.take slots := by
  unfold pageOf
  rw [List.map_map]
  exact List.map_snd_zip (by simp)

theorem pageOf_nil (slots : Nat) : pageOf [] slots = [] := by simp [pageOf]

theorem lastOf_pageOf (rest : List Extent) (slots : Nat) (P : List Extent) (x : Extent)
    (h : rest.take slots = P ++ [x]) :
    lastOf (pageOf rest slots) = some (x, decide (P.length + 1 = rest.length)) := by
  unfold pageOf
  rw [h, zipRange_concat, lastOf_eq_getLast?, List.getLast?_concat]

/-- Invariant of the paging loop: `pre` is what has been collected, `rest` what FIEMAP still answers from
`fmStart`, and `all = pre ++ rest`.  A page takes a non-empty prefix of `rest`; unless it is flagged last, the next
request starts at the stop of its last extent, where `WF_dropWhile` says exactly the remainder is found. -/
theorem mapExtentsLoop_all (all : List Extent) (hw : WF all) (slots : Nat) (hs : 0 < slots) :
    ∀ (fuel : Nat) (pre rest : List Extent) (fmStart : Nat), all = pre ++ rest →
      all.dropWhile (fun e => decide (e.stop ≤ fmStart)) = rest → rest.length + 1 ≤ fuel →
      mapExtentsLoop (fiemapOf all slots) fuel fmStart pre = some (some all) := by
  intro fuel
  induction fuel with
  | zero => intro _ _ _ _ _ h; omega
  | succ f ih =>
    intro pre rest fmStart hall hdrop hfuel
    unfold mapExtentsLoop
    rw [fiemapOf_eq, hdrop]
    simp only
    rcases List.eq_nil_or_concat (rest.take slots) with hnil | ⟨P, x, hPx⟩
    · have hr : rest = [] := by
        cases rest with
        | nil => rfl
        | cons a r =>
          obtain ⟨k, rfl⟩ : ∃ k, slots = k + 1 := ⟨slots - 1, by omega⟩
          simp at hnil
      subst hr
      simp [pageOf_nil, lastOf, hall]
    · rw [List.concat_eq_append] at hPx
      rw [lastOf_pageOf rest slots P x hPx]
      simp only [pageOf_map_fst]
      have hlen : (rest.take slots).length = P.length + 1 := by rw [hPx]; simp
      rw [List.length_take] at hlen
      by_cases hlast : P.length + 1 = rest.length
      · simp only [hlast, decide_true, if_true]
        rw [List.take_of_length_le (by omega), ← hall]
      · simp only [hlast, decide_false]
        have hsplit : all = (pre ++ P) ++ x :: rest.drop slots := by
          rw [hall, List.append_assoc]
          congr 1
          rw [← List.singleton_append, ← List.append_assoc, ← hPx, List.take_append_drop]
        apply ih (pre ++ rest.take slots) (rest.drop slots) x.stop
        · rw [hall, List.append_assoc, List.take_append_drop]
        · rw [hsplit]
          exact WF_dropWhile _ _ _ (hsplit ▸ hw)
        · rw [List.length_drop]; omega

theorem mapExtents_all_pages (all : List Extent) (hw : WF all) (slots : Nat) (hs : 0 < slots) :
    mapExtents (fiemapOf all slots) (all.length + 2) = some (some all) := by
  unfold mapExtents
  apply mapExtentsLoop_all all hw slots hs (all.length + 2) [] all 0 rfl
  · cases all with
    | nil => rfl
    | cons a r =>
      have := WF_head hw
      rw [List.dropWhile_cons_of_neg (by simp; omega)]
  · omega

theorem nextSparseSegments_spec {s : SeekOracle} {src : Bytes} (hl : SeekLegal s src) {pos : Nat}
    (hp : pos < src.length) :
    pos ≤ (nextSparseSegments s src.length pos).1 ∧
    (nextSparseSegments s src.length pos).1 ≤ (nextSparseSegments s src.length pos).2 ∧
    (nextSparseSegments s src.length pos).2 ≤ src.length ∧
    pos < (nextSparseSegments s src.length pos).2 ∧
    ∀ i, pos ≤ i → i < (nextSparseSegments s src.length pos).1 → ZeroAt src i := by
  unfold nextSparseSegments
  cases hd : s.data pos with
  | none =>
    simp only [hl.hole_eof src.length (Nat.le_refl _)]
    exact ⟨Nat.le_of_lt hp, Nat.le_refl _, Nat.le_refl _, hp, fun i h1 _ => hl.data_none pos hp hd i h1⟩
  | some d =>
    obtain ⟨h1, h2, h3⟩ := hl.data_some pos d hp hd
    simp only []
    cases hh : s.hole d with
    | none => exact ⟨h1, Nat.le_of_lt h2, Nat.le_refl _, hp, h3⟩
    | some h =>
      obtain ⟨h4, h5⟩ := hl.hole_some pos d h hp hd hh
      exact ⟨h1, Nat.le_of_lt h4, h5, Nat.lt_of_le_of_lt h1 h4, h3⟩

theorem segmentsOf_ordered {s : SeekOracle} {src : Bytes} (hl : SeekLegal s src) :
    ∀ (fuel pos : Nat),
      List.Pairwise (fun a b => a.2 ≤ b.1) (segmentsOf s src.length fuel pos) ∧
      ∀ seg ∈ segmentsOf s src.length fuel pos, pos ≤ seg.1 ∧ seg.1 ≤ seg.2 ∧ seg.2 ≤ src.length := by
  intro fuel
  induction fuel with
  | zero => intro pos; simp [segmentsOf]
  | succ f ih =>
    intro pos
    unfold segmentsOf
    split
    · rename_i hp
      obtain ⟨h1, h2, h3, h4, _⟩ := nextSparseSegments_spec hl hp
      obtain ⟨ih1, ih2⟩ := ih (nextSparseSegments s src.length pos).2
      simp only [List.pairwise_cons, List.mem_cons]
      refine ⟨⟨fun b hb => (ih2 b hb).1, ih1⟩, ?_⟩
      intro seg hseg
      rcases hseg with rfl | hseg
      · exact ⟨h1, h2, h3⟩
      · have := ih2 seg hseg
        exact ⟨by omega, this.2.1, this.2.2⟩
    · simp

theorem segmentsOf_cover {s : SeekOracle} {src : Bytes} (hl : SeekLegal s src) (i : Nat)
    (hi : i < src.length) (hnz : src[i]? ≠ some 0) :
    ∀ (fuel pos : Nat), pos ≤ i → src.length < pos + fuel →
      ∃ seg ∈ segmentsOf s src.length fuel pos, seg.1 ≤ i ∧ i < seg.2 := by
  intro fuel
  induction fuel with
  | zero => intro pos hpi h; exact absurd (Nat.lt_of_le_of_lt hpi hi) (Nat.lt_asymm h)
  | succ f ih =>
    intro pos hpi hfuel
    have hp : pos < src.length := Nat.lt_of_le_of_lt hpi hi
    rw [segmentsOf, if_pos hp]
    obtain ⟨_, _, _, h4, h5⟩ := nextSparseSegments_spec hl hp
    have hge : (nextSparseSegments s src.length pos).1 ≤ i :=
      Nat.le_of_not_lt fun hlt => (h5 i hpi hlt).elim hnz (Nat.not_le.mpr hi)
    by_cases hin : i < (nextSparseSegments s src.length pos).2
    · exact ⟨_, List.mem_cons_self, hge, hin⟩
    · obtain ⟨seg, hseg, hc⟩ := ih (nextSparseSegments s src.length pos).2 (Nat.le_of_not_lt hin) (by omega)
      exact ⟨seg, List.mem_cons_of_mem _ hseg, hc⟩

/-- the segment loop terminates within `len + 1` iterations and its segments are ordered, inside the file -/
theorem segments_ordered (s : SeekOracle) (src : Bytes) (hl : SeekLegal s src) :
    List.Pairwise (fun a b => a.2 ≤ b.1) (segmentsOf s src.length (src.length + 1) 0) ∧
    ∀ seg ∈ segmentsOf s src.length (src.length + 1) 0, seg.1 ≤ seg.2 ∧ seg.2 ≤ src.length := by
  obtain ⟨h1, h2⟩ := segmentsOf_ordered hl (src.length + 1) 0
  exact ⟨h1, fun seg hseg => (h2 seg hseg).2⟩

theorem segments_cover (s : SeekOracle) (src : Bytes) (hl : SeekLegal s src) (i : Nat) (hi : i < src.length)
    (hnz : src[i]? ≠ some 0) :
    ∃ seg ∈ segmentsOf s src.length (src.length + 1) 0, seg.1 ≤ i ∧ i < seg.2 :=
  segmentsOf_cover hl i hi hnz (src.length + 1) 0 (Nat.zero_le _) (by omega)

/-- `SEEK_DATA` inside the file lands in the first segment that ends after `pos`, at `pos` or at the
segment's start, and no segment touches the bytes skipped -/
theorem layout_data_some {L : Layout} {src : Bytes} (h : LayoutSound L src) {pos d : Nat}
    (hp : pos < src.length) (hd : L.seekData pos = some d) :
    ∃ sg ∈ L.segs, pos ≤ d ∧ sg.1 ≤ d ∧ d < sg.2 ∧
      ∀ i, pos ≤ i → i < d → ¬ ∃ t ∈ L.segs, t.1 ≤ i ∧ i < t.2 := by
  rw [Layout.seekData, if_neg (h.len_eq ▸ Nat.not_le.mpr hp)] at hd
  split at hd
  · rename_i sg hf
    obtain rfl := Option.some.inj hd
    obtain ⟨hps, as, bs, hsplit, hbefore⟩ := List.find?_eq_some_iff_append.mp hf
    have hps : pos < sg.2 := of_decide_eq_true hps
    have hmem : sg ∈ L.segs := hsplit ▸ List.mem_append_right _ List.mem_cons_self
    have hne := (h.nonempty sg hmem).1
    refine ⟨sg, hmem, Nat.le_max_left .., Nat.le_max_right .., Nat.max_lt.mpr ⟨hps, hne⟩, ?_⟩
    intro i hpi hlt ⟨t, ht, ht1, ht2⟩
    have hlt : i < sg.1 := by omega
    have hsorted := h.sorted
    rw [hsplit, List.pairwise_append, List.pairwise_cons] at hsorted
    rw [hsplit, List.mem_append, List.mem_cons] at ht
    rcases ht with ht | rfl | ht
    · have : ¬ pos < t.2 := of_decide_eq_false (Bool.not_eq_true' _ ▸ hbefore t ht)
      omega
    · omega
    · have := hsorted.2.1.1 t ht
      omega
  · nomatch hd

/-- the concrete layout oracle (what the executable model runs) satisfies the SEEK contract -/
theorem layout_oracle_legal (L : Layout) (src : Bytes) (h : LayoutSound L src) :
    SeekLegal L.oracle src where
  data_some := by
    intro pos d hp hd
    obtain ⟨sg, hmem, h1, _, h3, hz⟩ := layout_data_some h hp hd
    refine ⟨h1, Nat.lt_of_lt_of_le h3 (h.len_eq ▸ (h.nonempty sg hmem).2), ?_⟩
    intro i hpi hid
    by_cases hi : i < src.length
    · exact Or.inl (h.zeros i hi (hz i hpi hid))
    · exact Or.inr (Nat.le_of_not_lt hi)
  data_none := by
    intro pos hp hd i hpi
    by_cases hi : i < src.length
    · refine Or.inl (h.zeros i hi ?_)
      intro ⟨t, ht, ht1, ht2⟩
      have hd : L.seekData pos = none := hd
      rw [Layout.seekData, if_neg (h.len_eq ▸ Nat.not_le.mpr hp)] at hd
      split at hd
      · nomatch hd
      · rename_i hf
        have : ¬ pos < t.2 := fun c => List.find?_eq_none.mp hf t ht (decide_eq_true c)
        omega
    · exact Or.inr (Nat.le_of_not_lt hi)
  hole_some := by
    intro pos d hh hp hd hhole
    obtain ⟨sg, hmem, _, h2, h3, _⟩ := layout_data_some h hp hd
    have hlen := h.len_eq
    have hhole : L.seekHole d = some hh := hhole
    rw [Layout.seekHole, if_neg (Nat.not_le.mpr (Nat.lt_of_lt_of_le h3 (h.nonempty sg hmem).2))] at hhole
    split at hhole
    · rename_i t ht
      obtain rfl := Option.some.inj hhole
      have := (h.nonempty t (List.mem_of_find?_eq_some ht)).2
      have htp := List.find?_some ht
      simp only [decide_eq_true_eq] at htp
      omega
    · rename_i hnone
      exact absurd (decide_eq_true ⟨h2, h3⟩) (List.find?_eq_none.mp hnone sg hmem)
  hole_eof := by
    intro d hd
    show L.seekHole d = none
    rw [Layout.seekHole, if_pos (h.len_eq ▸ hd)]

theorem layout_segments_ordered (L : Layout) (src : Bytes) (h : LayoutSound L src) :
    List.Pairwise (fun a b => a.2 ≤ b.1) (segmentsOf L.oracle src.length (src.length + 1) 0) ∧
    ∀ seg ∈ segmentsOf L.oracle src.length (src.length + 1) 0, seg.1 ≤ seg.2 ∧ seg.2 ≤ src.length :=
  segments_ordered L.oracle src (layout_oracle_legal L src h)

theorem layout_segments_cover (L : Layout) (src : Bytes) (h : LayoutSound L src) (i : Nat)
    (hi : i < src.length) (hnz : src[i]? ≠ some 0) :
    ∃ seg ∈ segmentsOf L.oracle src.length (src.length + 1) 0, seg.1 ≤ i ∧ i < seg.2 :=
  segments_cover L.oracle src (layout_oracle_legal L src h) i hi hnz

end Xcp
