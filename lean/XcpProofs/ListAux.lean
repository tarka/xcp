/-! Sums and counts over a list whose `i`-th entry `y` is replaced (`set`) or removed (`eraseIdx`), stated with `+` on
both sides so that `omega` can use them; `map` commutes with `eraseIdx`; the head and tail of a `drop`; splitting a list at an erased index; induction from
the right; `mapM` over `Option`; `Except.toOption`. -/
namespace Xcp

theorem sum_map_set {α} (f : α → Nat) (x y : α) : ∀ (l : List α) (i : Nat), l[i]? = some y →
    ((l.set i x).map f).sum + f y = (l.map f).sum + f x
  | [], i, h => by simp at h
  | a :: l, 0, h => by simp at h; subst h; simp; omega
  | a :: l, i+1, h => by
    simp at h; have := sum_map_set f x y l i h
    simp only [List.set_cons_succ, List.map_cons, List.sum_cons]; omega

theorem sum_map_eraseIdx {α} (f : α → Nat) (y : α) : ∀ (l : List α) (i : Nat), l[i]? = some y →
    ((l.eraseIdx i).map f).sum + f y = (l.map f).sum
  | [], i, h => by simp at h
  | a :: l, 0, h => by simp at h; subst h; simp; omega
  | a :: l, i+1, h => by
    simp at h; have := sum_map_eraseIdx f y l i h; simp; omega

theorem sum_set (l : List Nat) (i x y : Nat) (h : l[i]? = some y) : (l.set i x).sum + y = l.sum + x := by
  simpa using sum_map_set id x y l i h

theorem sum_eraseIdx (l : List Nat) (i y : Nat) (h : l[i]? = some y) : (l.eraseIdx i).sum + y = l.sum := by
  simpa using sum_map_eraseIdx id y l i h

theorem countP_eq_sum_map {α} (p : α → Bool) (l : List α) :
    l.countP p = (l.map fun a => if p a then 1 else 0).sum := by
  induction l with
  | nil => rfl
  | cons a l ih => rw [List.countP_cons, List.map_cons, List.sum_cons, ih, Nat.add_comm]

theorem countP_set_add {α} (p : α → Bool) (x y : α) (l : List α) (i : Nat) (h : l[i]? = some y) :
    (l.set i x).countP p + (if p y then 1 else 0) = l.countP p + (if p x then 1 else 0) := by
  rw [countP_eq_sum_map, countP_eq_sum_map]
  exact sum_map_set _ x y l i h

theorem countP_eraseIdx_add {α} (p : α → Bool) (y : α) (l : List α) (i : Nat) (h : l[i]? = some y) :
    (l.eraseIdx i).countP p + (if p y then 1 else 0) = l.countP p := by
  rw [countP_eq_sum_map, countP_eq_sum_map]
  exact sum_map_eraseIdx _ y l i h

theorem map_eraseIdx {α β} (f : α → β) : ∀ (l : List α) (i : Nat), (l.eraseIdx i).map f = (l.map f).eraseIdx i
  | [], _ => rfl
  | _ :: _, 0 => rfl
  | a :: l, i+1 => by simp [map_eraseIdx f l i]

theorem drop_eq_cons {α} {l : List α} {n : Nat} {b : α} {q : List α} (h : l.drop n = b :: q) :
    n < l.length ∧ l[n]? = some b ∧ q = l.drop (n + 1) := by
  refine ⟨Nat.lt_of_not_le fun hle => ?_, ?_, ?_⟩
  · rw [List.drop_eq_nil_of_le hle] at h
    cases h
  · have := congrArg (·[0]?) h
    simpa using this
  · have := congrArg List.tail h
    simpa [List.tail_drop] using this.symm

theorem snoc_induction {α} {P : List α → Prop} (nil : P []) (snoc : ∀ l a, P l → P (l ++ [a])) : ∀ l, P l := by
  intro l
  rw [← List.reverse_reverse l]
  induction l.reverse with
  | nil => exact nil
  | cons a r ih => rw [List.reverse_cons]; exact snoc _ a ih

theorem eraseIdx_split {α : Type} : ∀ (l : List α) (i : Nat) (a : α), l[i]? = some a →
    ∃ pre post, l = pre ++ a :: post ∧ l.eraseIdx i = pre ++ post := by
  intro l
  induction l with
  | nil => intro i a h; simp at h
  | cons x l ih =>
    intro i a h
    cases i with
    | zero =>
      simp at h
      exact ⟨[], l, by simp [h], by simp⟩
    | succ i =>
      simp at h
      obtain ⟨pre, post, h1, h2⟩ := ih i a h
      exact ⟨x :: pre, post, by simp [h1], by simp [h2]⟩

theorem mapM_option_none {α β} (f : α → Option β) :
    ∀ (l : List α), (∃ p ∈ l, f p = none) → l.mapM f = none
  | [], h => by obtain ⟨p, hp, _⟩ := h; cases hp
  | a :: r, h => by
    obtain ⟨p, hp, hf⟩ := h
    rw [List.mapM_cons]
    cases hfa : f a with
    | none => rfl
    | some b =>
      have hr : p ∈ r := by
        cases hp with
        | head => rw [hfa] at hf; cases hf
        | tail _ h => exact h
      have := mapM_option_none f r ⟨p, hr, hf⟩
      simp [this]

theorem mapM_option_some_mem {α β} (f : α → Option β) :
    ∀ (l : List α) (ls : List β), l.mapM f = some ls → ∀ p ∈ l, ∃ r, f p = some r ∧ r ∈ ls
  | [], _, _, p, hp => by cases hp
  | a :: r, ls, h, p, hp => by
    rw [List.mapM_cons] at h
    cases hfa : f a with
    | none => simp [hfa] at h
    | some b =>
      cases hr : r.mapM f with
      | none => simp [hfa, hr] at h
      | some bs =>
        simp [hfa, hr] at h
        subst h
        cases hp with
        | head => exact ⟨b, hfa, List.mem_cons_self⟩
        | tail _ hp' =>
          obtain ⟨x, hx, hm⟩ := mapM_option_some_mem f r bs hr p hp'
          exact ⟨x, hx, List.mem_cons_of_mem _ hm⟩

theorem toOption_some_iff {ε α} {x : Except ε α} {a : α} : x.toOption = some a ↔ x = .ok a := by
  cases x <;> simp [Except.toOption]

end Xcp
