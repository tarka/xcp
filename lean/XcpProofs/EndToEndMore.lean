import XcpProofs.EndToEndClash
import XcpProofs.MultiCollision
/-! # The whole program model under `--no-clobber`

For the whole program model `L1run fs o texts` (main's validation, then `runSources`) and the invocation
`xcp -r s1 … sn DEST` / `-t DEST s1 … sn` with `DEST` an existing directory, no glob expansion.

`whole_invocation_noclobber_preserves`, `whole_invocation_noclobber_collision_exits_nonzero`: whatever the exit —
validation rejected, a collision, success — every entry that existed initially is kept (`Preserved`); and if some
target `DEST/bi` exists, the exit status is non-zero.  These are about `runSources`, which probes each target when
it gets to the source (the `multiOps` theorems of `MultiCollision` probe in the initial state). -/
namespace Xcp

theorem runSources_noclobber (fs : Fs) (dest : RPath) (items : List CopySrc) (fuel : Nat)
    (H : MultiHyp fs dest items fuel) (c : Cfg) (texts : GiTexts) (hd : c.dereference = false)
    (hn : c.noClobber = true) (hg : c.gitignore = false) (hnt : c.noTargetDir = false) :
    Preserved fs.root (runSources fs c texts (plainPath dest.names) (items.map (·.path))).fs.root ∧
    ((∃ e ∈ items, fs.root.getAt (dest.names ++ [e.base]) ≠ none) →
      (runSources fs c texts (plainPath dest.names) (items.map (·.path))).exit = .err) := by
  obtain ⟨es0, hes0⟩ := H.dd
  have hdl := H.destLen
  rw [runSources_eq_foldRun, foldRun_map]
  -- the sources still to come, from the state the earlier ones left
  have key : ∀ (rest : List CopySrc) (g : Fs), (∀ e ∈ rest, e ∈ items) → (rest.map (·.base)).Nodup →
      Ready fs (items.map fun e => dest.names ++ [e.base]) (rest.map fun e => dest.names ++ [e.base]) g →
      Preserved g.root (foldRun (fun g e => runSource c texts (plainPath dest.names) g e.path) g rest).fs.root ∧
      ((∃ e ∈ rest, fs.root.getAt (dest.names ++ [e.base]) ≠ none) →
        (foldRun (fun g e => runSource c texts (plainPath dest.names) g e.path) g rest).exit = .err) := by
    intro rest
    induction rest with
    | nil =>
      intro g _ _ _
      refine ⟨Preserved.refl _, ?_⟩
      rintro ⟨e, he, _⟩
      cases he
    | cons e rest ih =>
      intro g hsub hnd h
      simp only [List.map_cons, List.nodup_cons] at hnd
      have he := hsub e List.mem_cons_self
      obtain ⟨hpe, _, hsn, hnl, hcop, hl⟩ := H.item he
      obtain ⟨⟨es, hes⟩, hsn', hage, hrs⟩ := H.inReady c texts hg hnt he h.head
      cases hx : fs.root.getAt (dest.names ++ [e.base]) with
      | some x =>
        -- the target exists: the failure marker, nothing else
        have hlx : g.lexists (plainPath (dest.names ++ [e.base])) = true :=
          (lexists_child_iff g dest.names e.base es hes (by omega)).2 (by rw [hage, hx]; exact fun h => by cases h)
        have hls := lstat_of_getAt g e.path.names e.node (le_256_of_lt (by omega)) hsn'
        rw [← hpe] at hls
        have hrun : runSource c texts (plainPath dest.names) g e.path = ⟨.err, g⟩ := by
          rw [hrs, walkFuel_eq, walkEntry_collision g c hd hn e.path _ 63 [] _ e.node hnl hls hlx]
          rfl
        rw [foldRun_cons_err (run1 := fun g e => runSource c texts (plainPath dest.names) g e.path) (a := e)
          (by rw [hrun]), hrun]
        exact ⟨Preserved.refl _, fun _ => rfl⟩
      | none =>
        -- the target is absent: the source tree is placed there, exactly
        have hxg : g.root.getAt (dest.names ++ [e.base]) = none := by rw [hage, hx]
        have hshape := walk_root g c hd e.path.names (dest.names ++ [e.base])
          (.inr (absent_below g _ hxg (by rw [ParentDir, List.dropLast_concat]; exact ⟨es, hes⟩))) hcop hsn' hnl hl
        rw [← hpe, ← walkFuel_eq] at hshape
        have hrun : runSource c texts (plainPath dest.names) g e.path = ⟨.ok,
            { g with root := placeAt g.root (dest.names ++ [e.base]) (g.root.getAt (dest.names ++ [e.base])) e.node }⟩ := by
          rw [hrs, hshape]
          exact exactStep_opsOf id c hes0 H.targets.1 e (.inr hx) (.self hsn) hcop (H.targets.2 e he)
            (List.mem_map_of_mem he) hl hdl g h.head
            (by show Compatible (fs.root.getAt (dest.names ++ [e.base])) e.node; rw [hx]; exact compatible_none _)
        rw [foldRun_cons_ok (run1 := fun g e => runSource c texts (plainPath dest.names) g e.path) (a := e) hrun]
        have hv : (Node.overlay (fs.root.getAt (dest.names ++ [e.base])) e.node).WF :=
          H.overlay_WF he _ (fun x hx => subtree_WF H.wf.2.1 hx)
        have hpres : Preserved g.root
            (placeAt g.root (dest.names ++ [e.base]) (g.root.getAt (dest.names ++ [e.base])) e.node) := by
          rw [hxg, placeAt_absent g.root dest.names e.base es e.node hes hxg]
          exact setAt_missing_preserved g.root _ e.node hxg
        obtain ⟨ih1, ih2⟩ := ih _ (fun a ha => hsub a (List.mem_cons_of_mem _ ha)) hnd.2
          (h.next (cp := id) (List.mem_map_of_mem he) (by rw [List.map_id]; exact hnd.1) hv)
        refine ⟨Preserved.trans hpres ih1, ?_⟩
        rintro ⟨e', he', hne'⟩
        apply ih2
        rcases List.mem_cons.1 he' with rfl | hm
        · exact absurd hx hne'
        · exact ⟨e', hm, hne'⟩
  exact key items fs (fun _ h => h) H.nd (Ready.init H.wf _ _)

/-- `--no-clobber`, the whole invocation, every exit: every entry that existed initially is kept — nothing is
modified, replaced, truncated, renamed or removed; directories may have gained entries -/
theorem whole_invocation_noclobber_preserves (fs : Fs) (o : Opts) (texts : GiTexts) (dest : RPath)
    (items : List CopySrc) (fuel : Nat) (H : MultiHyp fs dest items fuel)
    (hd : o.cfg.dereference = false) (hn : o.cfg.noClobber = true) (hg : o.cfg.gitignore = false)
    (hnt : o.cfg.noTargetDir = false) (hglob : o.glob = false)
    (hpaths : (o.targetDir = none ∧ o.paths = items.map (·.path) ++ [dest]) ∨
      (o.targetDir = some dest ∧ o.paths = items.map (·.path)))
    (hdest : PlainTarget fs dest) :
    Preserved fs.root (L1run fs o texts).fs.root ∧
    ((∃ e ∈ items, fs.root.getAt (dest.names ++ [e.base]) ≠ none) → (L1run fs o texts).exit = .err) := by
  rcases whole_invocation_rejected_or_started fs o texts dest items hglob hpaths with ⟨_, hL⟩ | hL
  · have h := runSources_noclobber fs dest items fuel H o.cfg texts hd hn hg hnt
    rw [← plainTarget_eq fs dest hdest] at h
    rw [hL]
    exact h
  · rw [hL]
    exact ⟨Preserved.refl _, fun _ => rfl⟩

/-- `--no-clobber`: if some target exists, the whole invocation exits non-zero (and, by the previous theorem, has
altered nothing that existed) -/
theorem whole_invocation_noclobber_collision_exits_nonzero (fs : Fs) (o : Opts) (texts : GiTexts) (dest : RPath)
    (items : List CopySrc) (fuel : Nat)
    (hd : o.cfg.dereference = false) (hn : o.cfg.noClobber = true) (hg : o.cfg.gitignore = false)
    (hnt : o.cfg.noTargetDir = false) (hglob : o.glob = false)
    (hpaths : (o.targetDir = none ∧ o.paths = items.map (·.path) ++ [dest]) ∨
      (o.targetDir = some dest ∧ o.paths = items.map (·.path)))
    (hwf : FsEq fs fs)
    (hdest : PlainTarget fs dest) (hdd : ∃ es, fs.root.getAt dest.names = some (.dir es))
    (hfuel : fuel < walkFuel)
    (hsrc : ∀ e ∈ items, PlainTarget fs e.path ∧ e.path.fileName = some e.base ∧
      fs.root.getAt e.path.names = some e.node ∧ e.node.Copyable fuel ∧ e.path.names.length + walkFuel < 256)
    (hnd : (items.map (·.base)).Nodup)
    (hun : ∀ e ∈ items, ∀ e' ∈ items,
      ¬ e.path.names <+: dest.names ++ [e'.base] ∧ ¬ dest.names ++ [e'.base] <+: e.path.names)
    (hcol : ∃ e ∈ items, fs.root.getAt (dest.names ++ [e.base]) ≠ none)
    (hlen : dest.names.length + 1 + walkFuel < 256) :
    (L1run fs o texts).exit = .err :=
  (whole_invocation_noclobber_preserves fs o texts dest items fuel ⟨hwf, hdd, hfuel, hsrc, hnd, hun, hlen⟩ hd hn hg hnt
    hglob hpaths hdest).2 hcol

end Xcp
