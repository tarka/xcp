import XcpProofs.DerefTree
import XcpProofs.RunInv
/-! # `--dereference` under every interleaving: existing compatible destination, fresh destination, `--no-clobber`

The `-L` counterpart of `overlay_concurrent_ok` (OverlayConc), over the sequential `overlay_deref` (DerefTree), with the
tree seen through the links (`s.erase`, `derefS`) in place of the source node: the destination may exist, provided what
is there is `Compatible` with `s.erase`; the run then leaves the destination overlaid with `s.erase`.  The refinement
theorem is used with `L0.GoodD`, which asks nothing about the length of the source path of a queued operation: under
`-L` an operation may read from a canonical place 256 names deep (a regular file there still resolves).

The places the operations read from are out of the way of the target for free only when the target is fresh
(`DerefSetup.readsAway`); with an existing destination `ReadsAway s tb.names` — no canonical place of a leaf of `s` is
at/below the target or above it — is a genuine hypothesis.  It excludes `xcp -rL S D` where a link of `S` leads to a file inside
`D/S` (the copy would read what the run itself overwrites, or hit the same-file guard).  It is decidable, and checked
by `decide` on the instance below.  As in `DerefTree`, the whole walk is computed against the initial state; this is
adequate for the real, interleaved walker when in addition no directory the walk lists (`s.dirs`) is at/below the
target or above it. -/
namespace Xcp

open L0

theorem opTarget_dropSrc (x : Op) : opTarget (Op.dropSrc x) = opTarget x := by cases x <;> rfl

theorem dropSrc_mkdir (x : Op) (t : RPath) : Op.dropSrc x = .mkdir t ↔ x = .mkdir t := by
  cases x <;> simp [Op.dropSrc]

/-- `TodoOK` looks at targets and at which operations are `mkdir`s only -/
theorem todoOK_dropSrc : ∀ (l : List Op) (D : List Name → Prop), TodoOK D (l.map Op.dropSrc) ↔ TodoOK D l
  | [], _ => Iff.rfl
  | x :: r, D => by
    have hD : (fun p => D p ∨ ∃ t, Op.dropSrc x = .mkdir t ∧ p = t.names) =
        (fun p => D p ∨ ∃ t, x = .mkdir t ∧ p = t.names) := by
      funext p
      simp only [dropSrc_mkdir]
    simp only [List.map_cons, TodoOK, opTarget_dropSrc]
    rw [hD, todoOK_dropSrc r]

theorem opsOfS_targets (s : SNode) (sn tn : List Name) :
    (opsOfS s tn).map opTarget = (opsOf s.erase sn tn).map opTarget := by
  have h := congrArg (List.map opTarget) (opsOfS_dropSrc s sn tn)
  simp only [List.map_map] at h
  have hf : opTarget ∘ Op.dropSrc = opTarget := by
    funext x
    exact opTarget_dropSrc x
  rw [hf] at h
  exact h

theorem opsOfS_tgt_nodup (d : Nat) (s : SNode) (hc : s.erase.Copyable d) (tn : List Name) :
    ((opsOfS s tn).map opTarget).Nodup := by
  rw [opsOfS_targets s [] tn]
  exact opsOf_tgt_nodup d s.erase hc [] tn

theorem todoOK_opsOfS (s : SNode) (tn : List Name) (D : List Name → Prop) (hD : D tn.dropLast) :
    TodoOK D (opsOfS s tn) := by
  have h := todoOK_opsOf s.erase [] tn D [] hD trivial
  rw [List.append_nil] at h
  rw [← todoOK_dropSrc, opsOfS_dropSrc s [] tn, todoOK_dropSrc]
  exact h

theorem mem_opsOfSL {es : List (Name × SNode)} {tn : List Name} {x : Op} (h : x ∈ opsOfSL es tn) :
    ∃ e ∈ es, x ∈ opsOfS e.2 (tn ++ [e.1]) := by
  induction es with
  | nil => simp [opsOfSL] at h
  | cons e r ih =>
    obtain ⟨m, ch⟩ := e
    simp only [opsOfSL, List.mem_append] at h
    rcases h with h | h
    · exact ⟨(m, ch), List.mem_cons_self, h⟩
    · obtain ⟨e, he, hx⟩ := ih h
      exact ⟨e, List.mem_cons_of_mem _ he, hx⟩

/-- `mem_opsOf` for a sourced tree: induction on the depth bound; a leaf gives its own canonical path `cp` as the
place read, a directory either its `mkdir` or an operation of a child one level down (`mem_opsOfSL`) -/
theorem mem_opsOfS : ∀ (d : Nat) (s : SNode), s.erase.Copyable d → ∀ (tn : List Name) (x : Op), x ∈ opsOfS s tn →
    ∃ rel m cp, s.erase.getAt rel = some m ∧ rel.length ≤ d ∧ x = headOp m cp (tn ++ rel) ∧
      (m.isDir = false → (cp, m) ∈ s.leaves) := by
  have leafF : ∀ (d : Nat) (cp : List Name) (k : Nat) (tn : List Name) (x : Op), x ∈ opsOfS (.file cp k) tn →
      ∃ rel m cp', (SNode.file cp k).erase.getAt rel = some m ∧ rel.length ≤ d ∧ x = headOp m cp' (tn ++ rel) ∧
        (m.isDir = false → (cp', m) ∈ (SNode.file cp k).leaves) := by
    intro d cp k tn x hx
    simp only [opsOfS, List.mem_singleton] at hx
    exact ⟨[], .file k, cp, rfl, Nat.zero_le _, by simp [hx, headOp], fun _ => by simp [SNode.leaves]⟩
  have leafS : ∀ (d : Nat) (cp : List Name) (k : FileKind) (dv : Nat) (tn : List Name) (x : Op),
      x ∈ opsOfS (.special cp k dv) tn →
      ∃ rel m cp', (SNode.special cp k dv).erase.getAt rel = some m ∧ rel.length ≤ d ∧
        x = headOp m cp' (tn ++ rel) ∧ (m.isDir = false → (cp', m) ∈ (SNode.special cp k dv).leaves) := by
    intro d cp k dv tn x hx
    simp only [opsOfS, List.mem_singleton] at hx
    exact ⟨[], .special k dv, cp, rfl, Nat.zero_le _, by simp [hx, headOp], fun _ => by simp [SNode.leaves]⟩
  intro d
  induction d with
  | zero =>
    intro s hc tn x hx
    cases s with
    | dir cp es => simp [SNode.erase, Node.Copyable] at hc
    | file cp k => exact leafF 0 cp k tn x hx
    | special cp k dv => exact leafS 0 cp k dv tn x hx
  | succ d ih =>
    intro s hc tn x hx
    cases s with
    | file cp k => exact leafF _ cp k tn x hx
    | special cp k dv => exact leafS _ cp k dv tn x hx
    | dir cp es =>
      simp only [SNode.erase] at hc ⊢
      obtain ⟨d', hd', hnd, hch⟩ := copyable_dir hc
      have hd'' : d' = d := by omega
      subst hd''
      simp only [opsOfS, List.mem_cons] at hx
      rcases hx with hx | hx
      · exact ⟨[], _, cp, rfl, Nat.zero_le _, by simp [hx, headOp], fun h => by simp [Node.isDir] at h⟩
      · obtain ⟨e, he, hxe⟩ := mem_opsOfSL hx
        obtain ⟨k, ch⟩ := e
        have hmem := eraseL_mem es k ch he
        obtain ⟨rel, m, cp', hg, hl, hxm, hlf⟩ := ih ch (hch _ hmem) _ x hxe
        refine ⟨k :: rel, m, cp', ?_, by simp only [List.length_cons]; omega, ?_, ?_⟩
        · rw [getAt_dir_cons, entGet_of_mem (eraseL es) hnd (k, ch.erase) hmem]; exact hg
        · simpa [List.append_assoc] using hxm
        · intro hm
          simp only [SNode.leaves]
          exact leavesL_mem es k ch he _ (hlf hm)

theorem copySpec_opsOfS {fs0 : Fs} {s : SNode} {T : List Name} {d : Nat} (hcop : s.erase.Copyable d)
    (hin : SrcIn fs0.root s) (haway : ReadsAway s T) (hne : T ≠ []) (hlen : T.length + d < 256) :
    CopySpec fs0 [⟨T, s.erase⟩] d (opsOfS s T) where
  char := by
    intro x hx
    obtain ⟨rel, m, cp, hg, hl, ex, hlf⟩ := mem_opsOfS d s hcop T x hx
    refine ⟨_, List.mem_singleton_self _, rel, m, cp, hg, hl, ex, fun hmd _ => ?_⟩
    obtain ⟨h1, _, h3⟩ := hin _ (hlf hmd)
    refine ⟨h1, h3, fun u hu => ?_⟩
    rw [List.mem_singleton.1 hu]
    exact ⟨(haway _ (hlf hmd)).2, (haway _ (hlf hmd)).1⟩
  tnd := opsOfS_tgt_nodup d s hcop T
  sep := fun t ht u hu => .inl ((List.mem_singleton.1 ht).trans (List.mem_singleton.1 hu).symm)
  tne := fun t ht => by rw [List.mem_singleton.1 ht]; exact hne
  lenT := fun t ht => by rw [List.mem_singleton.1 ht]; exact hlen

/-- `hn`: with `noClobber` the walk is `opsOfS` only if the probe never fires, which an absent target guarantees -/
theorem copySpec_of_derefWalk {fs : Fs} {src tb : RPath} {s : SNode} {fuel : Nat} (H : DerefSetup fs src tb s fuel)
    (c : Cfg) (hd : c.dereference = true) (hn : c.noClobber = false ∨ fs.root.getAt tb.names = none)
    (hout : ReadsAway s tb.names) :
    walkEntry fs c none src tb (fuel + 1) [] [] = opsOfS s tb.names ∧
    CopySpec fs [⟨tb.names, s.erase⟩] (fuel + 1) (opsOfS s tb.names) ∧
    TodoOK (DirsOf fs) (opsOfS s tb.names) := by
  obtain ⟨pes, hpes⟩ := H.par
  obtain ⟨hshape, hcop, hsrcin⟩ := deref_walk fs c hd src tb s (fuel + 1) H.wf.2.1 (root_not_link_of_dir hpes) H.abs
    H.der H.tbPlain (hn.imp_right fun habs => absent_below fs tb.names habs ⟨pes, hpes⟩)
  exact ⟨hshape, copySpec_opsOfS hcop hsrcin hout H.ne (Nat.succ_lt_succ H.len),
    todoOK_opsOfS s tb.names (DirsOf fs) ⟨pes, hpes⟩⟩

/-- with `--dereference`: no reachable state of the concurrent model is failed, and every
complete run ends with the destination overlaid with the tree seen through the links -/
theorem overlay_deref_concurrent_ok {fs : Fs} {src tb : RPath} {s : SNode} {fuel : Nat} (H : DerefSetup fs src tb s fuel)
    (c : Cfg) (hd : c.dereference = true) (hn : c.noClobber = false)
    (hcompat : Compatible (fs.root.getAt tb.names) s.erase) (hout : ReadsAway s tb.names)
    (ls : List Label) (st : St)
    (hrun : run c (init fs (walkEntry fs c none src tb (fuel + 1) [] [])) ls = some st) :
    st.failed = false ∧
    (final st = true →
      FsEq st.fs { fs with root := fs.root.setAt tb.names (Node.overlay (fs.root.getAt tb.names) s.erase) }) := by
  obtain ⟨fs', hex, heq⟩ := overlay_deref H c hd hn hcompat hout
  obtain ⟨hshape, hspec, htodo⟩ := copySpec_of_derefWalk H c hd (.inl hn) hout
  rw [hshape] at hrun hex
  have h := run_ok_and_refines hspec (List.forall_mem_singleton.2 (head0_of_compatible hcompat)) c H.wf (.inl hn)
    (List.forall_mem_singleton.2 H.par) htodo hex ls st hrun
  exact ⟨h.1, fun hfin => (h.2 hfin).trans heq⟩

theorem mirror_fresh_deref_of_overlay (fs : Fs) (c : Cfg) (hd : c.dereference = true) (hn : c.noClobber = false)
    (src tb : RPath) (s : SNode) (fuel : Nat)
    (hwf : FsEq fs fs)
    (hsrc : AbsNames src)
    (hder : derefS fs (fuel + 1) src.names [] = some s)
    (htb : PlainTarget fs tb) (hne : tb.names ≠ []) (habs : fs.root.getAt tb.names = none)
    (hpar : ∃ es, fs.root.getAt tb.names.dropLast = some (.dir es))
    (hlen : tb.names.length + fuel < 255) :
    ∃ fs', execOps fs c (walkEntry fs c none src tb (fuel + 1) [] []) = ⟨.ok, fs'⟩ ∧
      FsEq fs' { fs with root := fs.root.setAt tb.names s.erase } :=
  mirror_fresh_deref ⟨hwf, hsrc, hder, htb, hne, hpar, hlen⟩ c hd hn habs

theorem deref_fresh_concurrent_of_overlay (fs : Fs) (c : Cfg) (hd : c.dereference = true) (hn : c.noClobber = false)
    (src tb : RPath) (s : SNode) (fuel : Nat)
    (hwf : FsEq fs fs)
    (hsrc : AbsNames src)
    (hder : derefS fs (fuel + 1) src.names [] = some s)
    (htb : PlainTarget fs tb) (hne : tb.names ≠ []) (habs : fs.root.getAt tb.names = none)
    (hpar : ∃ es, fs.root.getAt tb.names.dropLast = some (.dir es))
    (hlen : tb.names.length + fuel < 255)
    (ls : List Label) (st : St)
    (hrun : run c (init fs (walkEntry fs c none src tb (fuel + 1) [] [])) ls = some st) :
    st.failed = false ∧
    (final st = true → FsEq st.fs { fs with root := fs.root.setAt tb.names s.erase }) := by
  have H : DerefSetup fs src tb s fuel := ⟨hwf, hsrc, hder, htb, hne, hpar, hlen⟩
  have h := overlay_deref_concurrent_ok H c hd hn (by rw [habs]; exact compatible_none _) (H.readsAway habs)
    ls st hrun
  rw [habs, overlay_none] at h
  exact h

/-- the sequential run alters no entry that existed before, anywhere in the file system -/
theorem deref_noclobber_preserves (fs : Fs) (c : Cfg) (hd : c.dereference = true) (hn : c.noClobber = true)
    (src tb : RPath) (s : SNode) (fuel : Nat)
    (hwf : FsEq fs fs)
    (hsrc : AbsNames src)
    (hder : derefS fs (fuel + 1) src.names [] = some s)
    (htb : PlainTarget fs tb) (hne : tb.names ≠ []) (habs : fs.root.getAt tb.names = none)
    (hpar : ∃ es, fs.root.getAt tb.names.dropLast = some (.dir es))
    (hlen : tb.names.length + fuel < 255) :
    Preserved fs.root (execOps fs c (walkEntry fs c none src tb (fuel + 1) [] [])).fs.root := by
  have _ := hn      -- the statement holds whatever `noClobber` is; this is the case C08 is about
  have H : DerefSetup fs src tb s fuel := ⟨hwf, hsrc, hder, htb, hne, hpar, hlen⟩
  obtain ⟨hshape, hspec, htodo⟩ := copySpec_of_derefWalk H c hd (.inr habs) (H.readsAway habs)
  rw [hshape]
  exact freshRun_preserved c _ fs
    (copy_freshRun hspec (List.forall_mem_singleton.2 habs) c (List.forall_mem_singleton.2 hpar) htodo)

/-! ## Non-vacuity: a concrete instance with an existing destination

`/S` = { file `a`; `l` → `a`; `m` → `/O/f` (absolute, outside the source) }, `/O` = { file `f` }, and the destination
`/T/S` exists: { file `a` (to be overwritten); file `z` (an entry the source does not have) }.  Source `/S`, target
`/T/S`.  Afterwards `/T/S` = { `a` (the source's content); `z` (kept); `l`, `m` (copies of what the links lead to) }. -/
namespace DerefOverlayExample

open DerefExample (nS nO nT)

def exRoot : Node := .dir [
  (nS, .dir [([97], .file 1),
             ([108], .link ⟨false, [.name [97]], false⟩),
             ([109], .link ⟨true, [.name nO, .name [102]], false⟩)]),
  (nO, .dir [([102], .file 2)]),
  (nT, .dir [(nS, .dir [([97], .file 9), ([122], .file 7)])])]

def exFs : Fs := ⟨exRoot, []⟩
def exCfg : Cfg := { dereference := true }

/-- the tree seen through the links, with the canonical path of every node -/
def exS : SNode := .dir [nS] [
  ([97], .file [nS, [97]] 1),
  ([108], .file [nS, [97]] 1),
  ([109], .file [nO, [102]] 2)]

/-- the destination afterwards: `a` rewritten in place, `z` kept, `l` and `m` appended as regular files -/
def exDest : Node := .dir [([97], .file 1), ([122], .file 7), ([108], .file 1), ([109], .file 2)]

theorem exS_computed : derefS exFs 2 [nS] [] = some exS := by rfl

theorem ex_overlay : Node.overlay (exFs.root.getAt [nT, nS]) exS.erase = exDest := by rfl

theorem ex_compatible : Compatible (exFs.root.getAt [nT, nS]) exS.erase := by
  show Node.compatible _ _ = true
  rfl

theorem ex_readsAway : ReadsAway exS [nT, nS] := by decide

theorem exFs_wf : FsEq exFs exFs := by
  have h : exRoot.Copyable 4 := by
    simp [exRoot, Node.Copyable, Node.Copyable.CopyableL, nS, nO, nT]
  exact ⟨rfl, copyable_WF 4 _ h, copyable_WF 4 _ h, SameObs.refl _⟩

theorem ex_target_plain : PlainTarget exFs (plainPath [nT, nS]) := by
  refine ⟨rfl, rfl, (plainPath_namesOnly _).2.2, ?_⟩
  rw [plainPath_names]
  have hT : exFs.root.getAt [nT, nS] = some (.dir [([97], .file 9), ([122], .file 7)]) := by rfl
  exact noLinkUpto_of_getAt hT rfl

/-- the sequential theorem applied to the instance -/
theorem example_run :
    ∃ fs', execOps exFs exCfg (walkEntry exFs exCfg none (plainPath [nS]) (plainPath [nT, nS]) 2 [] []) = ⟨.ok, fs'⟩ ∧
      FsEq fs' { exFs with root := exFs.root.setAt [nT, nS] exDest } := by
  have h := overlay_deref (src := plainPath [nS]) (tb := plainPath [nT, nS]) (s := exS) (fuel := 1)
    ⟨exFs_wf, plainPath_namesOnly _, by rw [plainPath_names]; exact exS_computed, ex_target_plain, by rw [plainPath_names]; simp,
      by rw [plainPath_names]; exact ⟨_, by rfl⟩, by rw [plainPath_names]; decide⟩
    exCfg rfl rfl (by rw [plainPath_names]; exact ex_compatible) (by rw [plainPath_names]; exact ex_readsAway)
  rw [plainPath_names, ex_overlay] at h
  exact h

/-- … and the concurrent one: whatever the interleaving, no failure, and a complete run ends in the same tree -/
theorem example_concurrent (ls : List Label) (st : St)
    (hrun : run exCfg (init exFs (walkEntry exFs exCfg none (plainPath [nS]) (plainPath [nT, nS]) 2 [] [])) ls =
      some st) :
    st.failed = false ∧
      (final st = true → FsEq st.fs { exFs with root := exFs.root.setAt [nT, nS] exDest }) := by
  have h := overlay_deref_concurrent_ok (src := plainPath [nS]) (tb := plainPath [nT, nS]) (s := exS) (fuel := 1)
    ⟨exFs_wf, plainPath_namesOnly _, by rw [plainPath_names]; exact exS_computed, ex_target_plain, by rw [plainPath_names]; simp,
      by rw [plainPath_names]; exact ⟨_, by rfl⟩, by rw [plainPath_names]; decide⟩ exCfg rfl rfl
    (by rw [plainPath_names]; exact ex_compatible) (by rw [plainPath_names]; exact ex_readsAway) ls st hrun
  rw [plainPath_names, ex_overlay] at h
  exact h

/-- the side condition is not idle: were `l` a link to the destination's own `a` (`/T/S/a`), it would fail -/
example : ¬ ReadsAway (.dir [nS] [([108], .file [nT, nS, [97]] 9)]) [nT, nS] := by decide

end DerefOverlayExample

end Xcp
