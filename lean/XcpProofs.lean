-- bytes: one file's content under jobs, extents and the copy loops
import XcpProofs.Bytes
import XcpProofs.Blocks
import XcpProofs.Legal
import XcpProofs.Merge
import XcpProofs.Extents
import XcpProofs.Loops
import XcpProofs.Compose
import XcpProofs.Sparse
import XcpProofs.Perm
-- records: backups, per-file metadata and call program, error plumbing, special files, options
import XcpProofs.BackupLemmas
import XcpProofs.HandleLemmas
import XcpProofs.ErrsLemmas
import XcpProofs.NodeLemmas
import XcpProofs.OptionIrrelevance
-- pools: the concurrent drivers and the status stream
import XcpProofs.ListAux
import XcpProofs.Lts
import XcpProofs.Monitor
import XcpProofs.PoolLog
import XcpProofs.PoolFInv
import XcpProofs.PoolInv
import XcpProofs.ParfileInv
import XcpProofs.StatusInv
-- namespace: trees, path resolution, the mutating calls, the walker
import XcpProofs.FsDefs
import XcpProofs.FsTree
import XcpProofs.FsResolve
import XcpProofs.FsCalls
import XcpProofs.FsFrame
import XcpProofs.WalkerLemmas
-- L0: every interleaving of the operations ends like the sequential run
import XcpProofs.L0Refine
import XcpProofs.L0Step
import XcpProofs.L0FsLemmas
import XcpProofs.L0Fs
-- tree copy: one source tree onto one place, sequentially and concurrently, plain / --gitignore / -L
import XcpProofs.TreeOps
import XcpProofs.Prune
import XcpProofs.WalkShape
import XcpProofs.Overlay
import XcpProofs.CopySpec
import XcpProofs.RunInv
import XcpProofs.OverlayConc
import XcpProofs.DerefTreeLemmas
import XcpProofs.DerefTree
import XcpProofs.DerefOverlay
import XcpProofs.MirrorExample
-- several sources
import XcpProofs.FoldRun
import XcpProofs.MultiSource
import XcpProofs.MultiConc
import XcpProofs.MultiCollision
import XcpProofs.MultiDeref
import XcpProofs.MultiDerefRun
import XcpProofs.MultiGi
-- clash and frame: a clashing destination fails on every interleaving; any run changes only the targets
import XcpProofs.AnyRunFrameLemmas
import XcpProofs.ClashLemmas
import XcpProofs.Clash
import XcpProofs.ClashExample
import XcpProofs.DerefClash
import XcpProofs.MultiClash
import XcpProofs.AnyRunFrame
-- whole program: `validate`, then `L1run`
import XcpProofs.EndToEnd
import XcpProofs.MultiSourceExample
import XcpProofs.EndToEndClash
import XcpProofs.EndToEndMore
import XcpProofs.TreeFrame
