import XcpModel.Errs
import XcpProofs.ErrsLemmas
/-! # C04 — no silent failure: a failed step always yields a non-zero exit

Model slice: `Xcp.Errs` — per kind of step, in which thread it runs and how its failure travels (Error
update, returned `Err` through the joins, or only a log line), and `main`'s exit rule.  The statement is
proved for every required step EXCEPT the finalisation steps that run inside `Drop` (finding F11: their
errors are logged and swallowed) — `no_silent_failure_partial`; the full statement is kept as
`no_silent_failure_full` and refuted by the witness `finalise_failure_is_silent`, which the check replays
on the implementation.  Existence probes of the destination are not steps; that a failed probe was read as
"absent" and silently changed the mapping was finding F12, repaired by a `fix:` commit: the probe that decides the mapping
is fallible (`mapping_probe_failure_is_reported`).  -/
namespace Xcp.C04

open Xcp.Errs

/-- The full statement (NOT a theorem of the unchanged code — see `finalise_failure_is_silent`). -/
def no_silent_failure_full : Prop :=
  ∀ (d : Driver) (failed : List Site), (∃ s ∈ failed, required s = true) → exitNonZero d failed = true

/-- Every required step outside `Drop`'s finalisation: its failure alone, or together with ANY other failures
(pairs, sequences), makes the exit status non-zero, for both drivers. -/
theorem no_silent_failure_partial (d : Driver) (failed : List Site) (s : Site) (hm : s ∈ failed)
    (hr : required s = true) (hf : isFinalise s = false) : exitNonZero d failed = true := by
  refine exitNonZero_of_mem hm ?_
  rcases report_classes d s with h | ⟨_, _, h⟩ | ⟨_, h | rfl⟩
  · rw [h, Bool.or_true]
  · rw [h]
    rfl
  · rw [h] at hf
    cases hf
  · cases hr

/-- equivalently: exit status 0 implies that no required step (outside finalisation) failed -/
theorem exit_zero_means_all_steps_succeeded (d : Driver) (failed : List Site) (h : exitNonZero d failed = false) :
    ∀ s ∈ failed, required s = false ∨ isFinalise s = true := by
  intro s hm
  by_cases hr : required s = true
  · by_cases hf : isFinalise s = true
    · exact Or.inr hf
    · have := no_silent_failure_partial d failed s hm hr (by simpa using hf)
      simp [this] at h
  · exact Or.inl (by simpa using hr)

/-- only failures to copy extended attributes or ownership are tolerated among the steps; the two existence
probes are not steps -/
theorem tolerated_steps (s : Site) : required s = false ↔ s = .finXattr ∨ s = .finChown ∨ s = .destProbe ∨ s = .specialProbeDest := by
  constructor
  · intro h
    unfold required at h
    split at h
    · exact .inl rfl
    · exact .inr (.inl rfl)
    · exact .inr (.inr (.inl rfl))
    · exact .inr (.inr (.inr rfl))
    · cases h
  · rintro (rfl | rfl | rfl | rfl) <;> rfl

/-- Finding F11 as a theorem: a failing fchmod / utimensat / fsync inside `Drop` is reported nowhere. -/
theorem finalise_failure_is_silent (d : Driver) :
    exitNonZero d [.finChmod] = false ∧ exitNonZero d [.finUtimens] = false ∧ exitNonZero d [.finFsync] = false := by
  cases d <;> decide

theorem full_statement_fails : ¬ no_silent_failure_full := by
  intro h
  exact absurd (h .parfile [.finChmod] ⟨.finChmod, List.mem_singleton.2 rfl, rfl⟩) (by decide)

/-- The repaired defect F12: the lookup that decides WHERE files go (is the destination an existing directory?) used to
read a failing stat as "no" and silently changed the mapping; after the `fix:` commit its failure returns an error
through main / the walker, alone or with any other failures beside it -/
theorem mapping_probe_failure_is_reported (d : Driver) (others : List Site) : exitNonZero d (.destProbe :: others) = true := by
  refine exitNonZero_of_mem List.mem_cons_self ?_
  cases d <;> rfl

/-- library clients: apart from a failing block job of parblock (reported through the update stream only),
every reported failure also makes `copy()` return an error -/
theorem copy_returns_err_except_pool_jobs (d : Driver) (s : Site) (h : (report d s).update = true)
    (hs : ¬ (d = .parblock ∧ s = .dataCopy)) : (report d s).ret = true := by
  rcases report_classes d s with h' | ⟨h1, h2, _⟩ | ⟨h', _⟩
  · exact h'
  · exact absurd ⟨h1, h2⟩ hs
  · rw [h'] at h
    cases h

/-- non-vacuity: a failing `ftruncate` in either driver, alone or with a tolerated failure beside it -/
example : exitNonZero .parblock [.finXattr, .truncateDst] = true ∧ exitNonZero .parfile [.truncateDst] = true := by decide

end Xcp.C04
