import XcpProps.C18
import XcpProps.C12
import XcpProps.C01
import XcpProps.C14
import XcpProofs.PoolFInv
/-! # C07 — xcp always terminates: no deadlock, no spin, with or without errors

Termination is proved component by component, each over EVERY label sequence (no fairness assumption is needed:
every schedule of enabled steps is finite because each step strictly decreases a natural-number measure):

* the dispatcher / bounded pool of parblock and the workers of parfile (`Xcp.Pool`, `Xcp.Parfile`): exact
  step count, and some label is enabled in every non-final state (no deadlock) — the bounded queue makes the
  dispatcher wait only while a pool thread is enabled;
* the walker / queue / copy / status stream with FAILURES of any thread at any point (`Xcp.Status`): measure
  decreases on every label including `walkerFail` and `fail i`; some label is enabled until the state is final;
  in a final state no thread is left that holds an updater clone, so the update channel closes;
* the copy loops under any legal kernel: no spin (`copy_file_offset`'s retry loop, `copy_bytes`, the user-space
  loops); a failing call ends the loop with an error instead;
* special files are recreated by a program that contains no `open`/`read` of the source (C14), so a FIFO or
  socket among the sources cannot block the run.

Named assumptions: `KernLive` (a copy request inside the file moves at least one byte) and no endless stream of
EINTR; block size ≥ 1.  Where the real code would spin if the kernel broke `KernLive` (a source truncated during
the copy) is outside the quantifier.  Wall-clock boundedness of real runs is MEASURED by the supervised runs
(time limit, every single fault, FIFOs/sockets, workers 1..64), not proved. -/
namespace Xcp.C07

open Xcp

/-- parblock: every schedule of the dispatcher and the pool is finite and cannot get stuck before the end -/
theorem parblock_terminates (files : List Nat) (cap workers : Nat) (fs : Bool) :
    (∀ ls s, Pool.run (Pool.init files cap workers fs) ls = some s → ls.length ≤ Pool.measure (Pool.init files cap workers fs)) ∧
    (∀ s, Pool.Reachable files cap workers fs s → 0 < workers → 0 < cap → Pool.final s = false → Pool.enabled s ≠ []) :=
  C18.parblock_every_schedule_terminates files cap workers fs

/-- parfile: likewise for the worker threads -/
theorem parfile_terminates (files : List Nat) (n : Nat) (fs : Bool) :
    (∀ ls s, Parfile.run (Parfile.init files n fs) ls = some s → ls.length ≤ Parfile.measure (Parfile.init files n fs)) ∧
    (∀ s, Parfile.Reachable files n fs s → 0 < n → Parfile.final s = false → Parfile.enabled s ≠ []) :=
  C18.parfile_every_schedule_terminates files n fs

/-- with failures of the walker or of any copy at any point: every step strictly decreases the measure … -/
theorem with_failures_every_step_decreases (s s' : Status.St) (l : Status.Label) (h : Status.step s l = some s') :
    C12.measure s' < C12.measure s :=
  C12.step_decreases s s' l h

/-- … so a run of `n` steps needs `n ≤ measure` … -/
theorem with_failures_runs_are_bounded (s s' : Status.St) (ls : List Status.Label) (h : Status.run s ls = some s') :
    C12.measure s' + ls.length ≤ C12.measure s :=
  Lts.run_len_le (fun _ => rfl) Status.run_cons C12.measure C12.step_decreases ls s s' h

/-- … and until the state is final some thread can move: no deadlock, also after errors -/
theorem with_failures_no_deadlock (s : Status.St) (h : Status.final s = false) : ∃ l s', Status.step s l = some s' :=
  C12.some_step_enabled s h

/-- the channel closes: a final state has no walker, no queued operation and no active copy left — nobody
holds an updater clone any more -/
theorem final_state_has_no_senders (s : Status.St) (h : Status.final s = true) :
    s.walkerDone = true ∧ s.queue = [] ∧ s.active = [] := by
  simp [Status.final] at h
  exact ⟨h.1.1, h.1.2, h.2⟩

/-- the retry loop of one block never spins under a legal kernel -/
theorem block_job_never_spins (src : Bytes) (k : Kern) (hs : KernSafe k src.length) (hl : KernLive k src.length)
    (off bytes : Nat) : (blockJob k true off bytes).stop ≠ .spin :=
  C01.blockJob_terminates src k hs hl off bytes

/-- parfile's `copy_bytes` never spins under a legal kernel, for any block size ≥ 1 and either backend -/
theorem copy_bytes_never_spins (k : Kern) (len : Nat) (hs : KernSafe k len) (hl : KernLive k len) (linux : Bool)
    (b : Nat) (hb : 0 < b) (hne : ∀ a off req, k a .read off req ≠ .err .EINTR) (n : Nat) (hn : n ≤ len) :
    (copyBytes k linux b (n + 1) 0 0 n 0).stop ≠ .spin :=
  (copyBytes_post k len hs linux b (n + 1) 0 0 n 0 (Nat.zero_le _)).2 hl hne hb ((Nat.zero_add n).symm ▸ hn)
    ((Nat.zero_add (n + 1)).symm ▸ Nat.lt_succ_self n)

/-- where the code would spin: block size 0 (outside the quantifier; the CLI rejects it by a
division-by-zero panic, exit 1) makes `copy_bytes` request 0 bytes for ever -/
theorem block_size_zero_spins : (copyBytes (fun _ _ _ req => .moved req) true 0 5 0 0 3 0).stop = .spin := by decide

/-- special files: the operation that recreates a FIFO/socket/device consists of an existence probe, possibly an
unlink, and mknod — the source is never opened or read, so it cannot block -/
theorem special_never_opened (src : NodeSpec) (umask : Nat) (nc ex rm : Bool) :
    ∀ c ∈ (specialProgram src umask nc ex rm).1, c = .probeDest ∨ c = .unlink ∨ ∃ n, c = .mknod n := by
  intro c _
  cases c with
  | probeDest => exact .inl rfl
  | unlink => exact .inr (.inl rfl)
  | mknod n => exact .inr (.inr ⟨n, rfl⟩)

/-- parblock WITH failures (`Xcp.PoolF`: a block job may fail at any moment; the dispatcher may stop with an error at
any moment without joining the pool): every schedule is still finite, and until everything is done some thread can move -/
theorem parblock_with_failures_terminates (files : List Nat) (cap workers : Nat) (fs : Bool) :
    (∀ ls s, PoolF.run (PoolF.init files cap workers fs) ls = some s →
        ls.length ≤ PoolF.measure (PoolF.init files cap workers fs)) ∧
    (∀ s, PoolF.Reachable files cap workers fs s → 0 < workers → 0 < cap → PoolF.final s = false → PoolF.enabled s ≠ []) := by
  refine ⟨fun ls s h => ?_, fun s hr hw hc hf => ?_⟩
  · exact Nat.le_trans (Nat.le_add_left _ _) (PoolF.run_measure _ _ ls h)
  · obtain ⟨h1, h2, _⟩ := PoolF.params_reachable hr
    exact PoolF.no_deadlock s (h2 ▸ hw) (h1 ▸ hc) hf

/-- … and failures leak nothing: when all threads are done every handle that was opened has been closed -/
theorem parblock_with_failures_closes_everything (files : List Nat) (cap workers : Nat) (fs : Bool) (s : PoolF.St)
    (h : PoolF.Reachable files cap workers fs s) (hf : PoolF.final s = true) :
    ∀ hd, hd < s.next → PoolF.Event.closed hd ∈ s.log :=
  PoolF.closed_of_final files cap workers fs s h hf

/-- non-vacuity: a schedule in which the second block of a two-block file fails and the dispatcher aborts with a second
file still unopened; the run is complete, the handle closed, the failure logged -/
example : (PoolF.run (PoolF.init [2, 1] 1 1 true)
    [.openNext, .push, .take, .push, .abort, .stepJob 0, .stepJob 0, .stepJob 0, .take, .failJob 0, .stepJob 0]).map
      (fun s => (PoolF.final s, s.log.contains (.closed 0), s.log.contains (.failed 0 1), s.next)) = some (true, true, true, 1) := by decide

end Xcp.C07
