import XcpModel.Walker
import XcpProofs.WalkerLemmas
/-! # C16 — invalid invocations are rejected with no side effects

Model slice: `validate` (src/main.rs before "Start copy", after the `fix:` commits) — a function of a
READ-ONLY view of the file system that returns no new `Fs` — and `L1run`, which returns the untouched file
system with a non-zero exit whenever `validate` rejects.  "No side effects" is therefore by construction
(`rejected_means_untouched`); the content of the property is that each class IS rejected, at every position of
the offending argument among valid ones (the theorems quantify over arbitrary source lists).  Unknown option
values (driver, reflink, backup, block size, workers) are rejected by the argument parser before any of this
runs (usage error, exit 2): checked by the correspondence run, not modelled.  -/
namespace Xcp.C16

open Xcp

/-- a rejected invocation leaves the whole file system exactly as it was and exits non-zero -/
theorem rejected_means_untouched (fs : Fs) (o : Opts) (texts : GiTexts) (r : Reject) (h : validate fs o = .error r) :
    L1run fs o texts = ⟨.err, fs⟩ := by
  unfold L1run
  rw [h]

/-- contradictory options -/
theorem force_and_noclobber_rejected (fs : Fs) (o : Opts) (h1 : o.cfg.noClobber = true) (h2 : o.force = true) :
    validate fs o = .error .forceAndNoClobber := by
  unfold validate
  simp [h1, h2]

/-- no source: no paths at all, or only a destination -/
theorem no_source_rejected (fs : Fs) (o : Opts) (hf : ¬ (o.cfg.noClobber = true ∧ o.force = true))
    (h : o.targetDir = none ∧ o.paths.length ≤ 1 ∨ o.targetDir ≠ none ∧ o.paths = []) :
    ∃ r, validate fs o = .error r := by
  have hsplit : argSplit o = none ∨ ∃ d, argSplit o = some (d, []) := by
    unfold argSplit
    rcases h with ⟨ht, hl⟩ | ⟨ht, hp⟩
    · rw [ht]
      match hp : o.paths, hl with
      | [], _ => exact .inl rfl
      | [x], _ => exact .inr ⟨x, rfl⟩
      | _ :: _ :: _, hl => simp at hl
    · cases hd : o.targetDir with
      | none => exact absurd hd ht
      | some d => exact .inr ⟨d, by simp [hp]⟩
  have _ := hf
  rcases hsplit with hn | ⟨d, hd⟩
  · exact validate_error_of_nosplit fs o hn
  · exact validate_error_of_nosource fs o d hd

/-- the destination and the source arguments (patterns under `--glob`) of an invocation -/
def literalSplit (o : Opts) : Option (RPath × List RPath) :=
  match o.targetDir with
  | some d => some (d, o.paths)
  | none => splitLastPath o.paths

/-- a missing source, at any position among valid ones -/
theorem missing_source_rejected (fs : Fs) (o : Opts) (hg : o.glob = false) (dest : RPath) (srcs : List RPath)
    (hs : literalSplit o = some (dest, srcs)) (s : RPath) (hm : s ∈ srcs) (hx : fs.exists s = false) :
    ∃ r, validate fs o = .error r :=
  validate_error_of_bad_source fs o hg dest srcs hs s hm (checkSource_error_missing fs o dest s hx)

/-- a directory without `--recursive`, at any position -/
theorem dir_without_recursive_rejected (fs : Fs) (o : Opts) (hg : o.glob = false) (dest : RPath) (srcs : List RPath)
    (hs : literalSplit o = some (dest, srcs)) (s : RPath) (hm : s ∈ srcs) (hd : fs.isDir s = true)
    (hr : o.cfg.recursive = false) : ∃ r, validate fs o = .error r :=
  validate_error_of_bad_source fs o hg dest srcs hs s hm (checkSource_error_dir fs o dest s hd hr)

/-- several sources with a destination that is not a directory -/
theorem multi_to_nondir_rejected (fs : Fs) (o : Opts) (hg : o.glob = false) (dest : RPath) (srcs : List RPath)
    (hs : literalSplit o = some (dest, srcs)) (hn : 1 < srcs.length) (hd : fs.isDir dest = false) :
    ∃ r, validate fs o = .error r :=
  validate_error_of_multi fs o dest srcs srcs hs (expandSources_noglob fs o srcs hg) hn hd

/-- a directory onto an existing non-directory: the source's own target (dest, or dest/basename) exists and is
not a directory — at any position -/
theorem dir_onto_file_rejected (fs : Fs) (o : Opts) (hg : o.glob = false) (dest : RPath) (srcs : List RPath)
    (hs : literalSplit o = some (dest, srcs)) (s tb : RPath) (hm : s ∈ srcs) (hd : fs.isDir s = true)
    (ht : targetBase fs o.cfg dest s = some tb) (he : fs.exists tb = true) (hnd : fs.isDir tb = false) :
    ∃ r, validate fs o = .error r :=
  validate_error_of_bad_source fs o hg dest srcs hs s hm (checkSource_error_dirOnto fs o dest s tb hd ht he hnd)

/-- source identical to destination — textually, or the same object through another spelling, a symbolic link
(the model has no hard links) — at any position -/
theorem same_as_dest_rejected (fs : Fs) (o : Opts) (hg : o.glob = false) (dest : RPath) (srcs : List RPath)
    (hs : literalSplit o = some (dest, srcs)) (s tb : RPath) (hm : s ∈ srcs)
    (ht : targetBase fs o.cfg dest s = some tb)
    (hsame : s.same dest = true ∨ s.same tb = true ∨ (fs.exists tb = true ∧ fs.sameFile s tb = true)) :
    ∃ r, validate fs o = .error r :=
  validate_error_of_bad_source fs o hg dest srcs hs s hm (checkSource_error_same fs o dest s tb ht hsame)

/-- a malformed glob, or a pattern that matches nothing, among valid ones -/
theorem bad_or_empty_glob_rejected (fs : Fs) (o : Opts) (hg : o.glob = true) (dest : RPath) (pats : List RPath)
    (hs : literalSplit o = some (dest, pats)) (p : RPath) (hm : p ∈ pats)
    (hb : globOne fs p = none ∨ globOne fs p = some []) :
    ∃ r, validate fs o = .error r :=
  validate_error_of_expand fs o dest pats hs (expandSources_error_of_mem fs o hg pats p hm hb)

end Xcp.C16
