import XcpProofs.Perm
import XcpProofs.L0Fs
import XcpProofs.OverlayConc
import XcpProofs.MultiConc
import XcpProofs.Clash
import XcpProofs.ClashExample
import XcpProofs.MultiClash
import XcpProofs.DerefOverlay
import XcpProofs.DerefClash
import XcpProofs.PoolInv
import XcpProofs.ParfileInv
import XcpProps.C01
import XcpProps.C02
import XcpProps.C03
import XcpProps.C10
import XcpProps.C12
/-! # C06 — outcome is independent of thread interleaving, worker count and driver

Partial.  What is proved, each for every schedule (label sequence) of the concurrent models and every worker
count / queue capacity:

* bytes: the final content of a file depends only on which positions the block jobs covered, not on their
  order, duplication or granularity (`bytes_depend_only_on_coverage`, `block_jobs_in_any_order`); both drivers
  end with destination = source (`drivers_agree_on_bytes`, from C01);
* the multiset of effects is schedule-independent: in every final state of the pool model every block of every
  file has been written exactly once and every handle finalised and closed (`every_schedule_same_effects`);
* "a file's metadata is applied only after its last byte has been written": no write of a handle follows its
  finalisation, in every reachable state (`metadata_after_last_write`), and finalisation determines the
  metadata whatever came before (C10);
* "a directory always exists before anything is created inside it": the walker emits — and itself executes,
  before queuing anything below — the `mkdir` of a directory as the FIRST operation of that directory's
  subtree (`mkdir_first_in_its_subtree`);
* effects on unrelated plain targets do not interfere (`unrelated_targets_do_not_interfere`, from C03's frame
  theorem): the state at one target after the run does not depend on when operations on other targets ran;
* the update totals and the exit status of failure-free runs are the same for every schedule (C12, C07).

* Refinement L0 ⇒ L1 (`any_interleaving_ends_like_the_sequential_run`): in the concurrent model `Xcp.L0` over the
  namespace model — the walker executes directory creations itself in walk order and hands every other operation
  to the workers, ANY queued operation may complete next, the walker may run ahead arbitrarily (this covers
  every interleaving, worker count and both drivers) — every complete failure-free run ends in the state of the
  sequential execution `L1`, up to the order of directory entries (`FsEq`: same observation at every path), for
  operation lists that are pairwise independent (`PairIndep`: targets names-only and unrelated or an ancestor
  `mkdir`, nobody writes into another's source) — provided each queued operation is `GoodAll` when handed over
  (plain target with existing parent directory, plain existing source, no symbolic link above any target).

  The hand-over hypothesis is discharged for a fresh target (`fresh_destination_any_interleaving`): there no interleaving
  can make an operation fail and every complete run ends with exactly the source tree at the target.

  Likewise for an EXISTING compatible destination (`existing_destination_any_interleaving`).

  And across SEVERAL sources of one run whose operations interleave (`several_sources_any_interleaving`), for distinct
  base names (one base name twice is finding F10).

  With `--dereference` likewise (`dereference_fresh_destination_any_interleaving`,
  `dereference_existing_destination_any_interleaving`); and for a destination that clashes with the source every complete
  run is failed (`clashing_destination_fails_on_every_interleaving` and its several-sources, gitignore and `-L` forms).

What is not proved: the hand-over condition for the destinations these theorems leave out — a symbolic link or a special
file at a position of the destination the source maps onto (a destination symlink under a source file is F13), two sources
mapped onto one name (F10) — and the bridge from the real thread structure to `Xcp.L0` (transcribed from the source); both
are checked on every real run instead (per-target call order by the monitor, mkdir-before-children and
equality of end states across schedules, worker counts and drivers, and against `L1run`).  Two recorded findings show where the
statement itself fails on the unchanged code: two sources mapping onto one target (F10) and the partial state
of FAILING runs (F14); they are reproduced by the check and printed as KNOWN-FINDING.  -/
namespace Xcp.C06

open Xcp

/-- two job lists covering the same positions give the same file: any order, any duplication (retries), any
split of a block into short copies -/
theorem bytes_depend_only_on_coverage (src dst : Bytes) (l1 l2 : List (Nat × Nat)) (hl : dst.length = src.length)
    (h1 : ∀ j ∈ l1, j.1 + j.2 ≤ src.length) (h2 : ∀ j ∈ l2, j.1 + j.2 ≤ src.length)
    (hc : ∀ i, covered l1 i ↔ covered l2 i) : runJobs src dst l1 = runJobs src dst l2 := by
  have _ := h1
  have _ := h2
  exact runJobs_ext src dst l1 l2 hl hc

/-- disjoint block jobs commute: every permutation of the jobs of a file gives the same content -/
theorem block_jobs_in_any_order (src dst : List Byte) (l1 l2 : List (Nat × Nat))
    (hp : l1.Perm l2) (hn : l1.Nodup) (hl : dst.length = src.length)
    (hin : ∀ j ∈ l1, j.1 + j.2 ≤ src.length)
    (hd : ∀ a ∈ l1, ∀ b ∈ l1, a ≠ b → Disjoint2 a b) :
    run (job src) dst l1 = run (job src) dst l2 := by
  have _ := hin
  have _ := hd
  exact jobs_any_order src dst l1 l2 hp hn hl

/-- both drivers, when they report success, leave the same bytes: the source's -/
theorem drivers_agree_on_bytes (src : Bytes) (k1 : Kern) (hs1 : KernSafe k1 src.length) (linux : Bool) (b fuel a r : Nat)
    (hpf : (copyBytes k1 linux b fuel a 0 src.length 0).stop = .ok r)
    (b2 : Nat) (hb2 : 0 < b2) (k2 : Nat × Nat → Kern) (hk2 : ∀ j, KernSafe (k2 j) src.length ∧ KernLive (k2 j) src.length)
    (hok : ∀ j ∈ parblockJobs src.length b2 false none, ∃ n, (blockJob (k2 j) true j.1 j.2).stop = .ok n)
    (all : List (Nat × Nat))
    (hall : ∀ x, x ∈ all ↔ ∃ j ∈ parblockJobs src.length b2 false none, x ∈ jobsOf (blockJob (k2 j) true j.1 j.2).evs) :
    runJobs src (createAllocate none src.length) (jobsOf (copyBytes k1 linux b fuel a 0 src.length 0).evs) =
    runJobs src (createAllocate none src.length) all := by
  rw [C01.parfile_dense_exact src k1 hs1 linux b fuel a r hpf,
      C01.parblock_exact src b2 hb2 false none (by simp) k2 hk2 hok all hall]

/-- every schedule of the dispatcher/pool performs the same effects: in ANY final state, whatever the label
sequence, the worker count and the queue capacity, every block of every file has been written exactly once and
every file has been finalised and closed -/
theorem every_schedule_same_effects (files : List Nat) (cap workers : Nat) (fs : Bool) (s : Pool.St)
    (h : Pool.Reachable files cap workers fs s) (hf : Pool.final s = true) :
    s.next = files.length ∧ (∀ hd, hd < s.next → .closed hd ∈ s.log) ∧
    ∀ hd (hb : hd < files.length), ∀ blk, blk < files[hd] → (s.log.count (.write hd blk) = 1) :=
  Pool.final_all_closed files cap workers fs s h hf

/-- a file's metadata is applied only after its last byte has been written, on every schedule -/
theorem metadata_after_last_write (files : List Nat) (cap workers : Nat) (fs : Bool) (s : Pool.St)
    (h : Pool.Reachable files cap workers fs s) : Pool.writesBeforeFinalise s.log = true :=
  Pool.writes_before_finalise files cap workers fs s h

/-- a directory always exists before anything is created inside it: the first operation the walker emits for a
directory entry is the creation of that directory — and the walker performs it itself, synchronously, before it
queues any operation of the subtree -/
theorem mkdir_first_in_its_subtree (fs : Fs) (c : Cfg) (hd : c.dereference = false) (hn : c.noClobber = false)
    (src tb : RPath) (fuel : Nat) (rel : List Name) (anc : List (List Name)) (cp : List Name) (es : List (Name × Node))
    (hl : fs.lstat (relJoin src rel) = some (cp, .dir es)) :
    (walkEntry fs c none src tb (fuel + 1) rel anc).head? = some (.mkdir (relJoin tb rel)) :=
  (C02.walk_emits_one_operation_per_kind fs c hd hn src tb fuel rel anc cp (.dir es) hl).2.2.1 es rfl

/-- operations on unrelated plain targets do not interfere: what an operation leaves outside its own target's
subtree and ancestors is untouched, so the state at one target does not depend on when the others ran -/
theorem unrelated_targets_do_not_interfere (fs fs' : Fs) (c : Cfg) (op : Op) (t : RPath) (ht : opTarget op = some t)
    (hp : PlainTarget fs t) (h : execOp fs c op = some fs') :
    ∀ q, ¬ (t.names <+: q) → ¬ (q <+: t.names) → fs'.root.getAt q = fs.root.getAt q :=
  C03.plain_op_frame fs fs' c op t ht hp h

/-- Refinement: every complete, failure-free concurrent execution — any interleaving of the walker with the
completions of queued operations, hence any worker count and either driver — ends in the file system of the
sequential execution (same observation at every path; only the order of directory entries may differ) -/
theorem any_interleaving_ends_like_the_sequential_run (c : Cfg) (fs0 : Fs) (ops : List Op)
    (h0 : FsEq fs0 fs0) (hnd : ops.Nodup) (hI : L0.PairIndep ops)
    (hand : ∀ (ls : List L0.Label) (s : L0.St) (op : Op) (r : List Op), L0.run c (L0.init fs0 ops) ls = some s →
              s.failed = false → s.todo = op :: r → L0.isSync op = false → L0.GoodAll ops s.fs op)
    (ls : List L0.Label) (s : L0.St) (hrun : L0.run c (L0.init fs0 ops) ls = some s)
    (hfin : L0.final s = true) (hok : s.failed = false) :
    ∃ f, L0.seqExec c (some fs0) ops = some f ∧ FsEq f s.fs :=
  L0.fs_run_refines_sequential c fs0 ops h0 hnd hI hand ls s hrun hfin hok

/-- … in particular two schedules of the same operations end in the same file system (up to entry order) -/
theorem two_interleavings_agree (c : Cfg) (fs0 : Fs) (ops : List Op)
    (h0 : FsEq fs0 fs0) (hnd : ops.Nodup) (hI : L0.PairIndep ops)
    (hand : ∀ (ls : List L0.Label) (s : L0.St) (op : Op) (r : List Op), L0.run c (L0.init fs0 ops) ls = some s →
              s.failed = false → s.todo = op :: r → L0.isSync op = false → L0.GoodAll ops s.fs op)
    (l1 l2 : List L0.Label) (s1 s2 : L0.St)
    (r1 : L0.run c (L0.init fs0 ops) l1 = some s1) (r2 : L0.run c (L0.init fs0 ops) l2 = some s2)
    (f1 : L0.final s1 = true) (f2 : L0.final s2 = true) (k1 : s1.failed = false) (k2 : s2.failed = false) :
    FsEq s1.fs s2.fs := by
  obtain ⟨a, ha, ea⟩ := L0.fs_run_refines_sequential c fs0 ops h0 hnd hI hand l1 s1 r1 f1 k1
  obtain ⟨b, hb, eb⟩ := L0.fs_run_refines_sequential c fs0 ops h0 hnd hI hand l2 s2 r2 f2 k2
  rw [ha] at hb
  cases hb
  exact (L0.fs_commutes c ops).trans _ _ _ ((L0.fs_commutes c ops).symm _ _ ea) eb

/-- the hand-over hypothesis discharged for a fresh target: for the operations the walker emits for any copyable source
tree and an absent target whose parent exists, NO interleaving can make an operation fail, and every complete run of
the concurrent model — any worker count, either driver — ends with exactly the source tree at the target -/
theorem fresh_destination_any_interleaving (fs : Fs) (c : Cfg) (hd : c.dereference = false) (hn : c.noClobber = false)
    (src tb : RPath) (srcNode : Node) (fuel : Nat)
    (hwf : FsEq fs fs) (hroot : fs.root.isDir = true)
    (hsrc : PlainTarget fs src) (hsn : fs.root.getAt src.names = some srcNode)
    (hcop : srcNode.Copyable fuel)
    (htb : PlainTarget fs tb) (hne : tb.names ≠ []) (habs : fs.root.getAt tb.names = none)
    (hpar : ∃ es, fs.root.getAt tb.names.dropLast = some (.dir es))
    (hun1 : ¬ src.names <+: tb.names) (hun2 : ¬ tb.names <+: src.names)
    (hlen : src.names.length + fuel < 200 ∧ tb.names.length + fuel < 200)
    (ls : List L0.Label) (s : L0.St) (hrun : L0.run c (L0.init fs (freshOps fs c src tb fuel)) ls = some s) :
    s.failed = false ∧
    (L0.final s = true → FsEq s.fs { fs with root := fs.root.setAt tb.names srcNode }) := by
  have _ := hroot
  rw [freshOps, walkEntry_none] at hrun
  have h := overlay_concurrent_ok (srcNode := srcNode) ⟨hwf, hsrc, hsn, hcop, htb, hne, hpar, ⟨hun1, hun2⟩, Nat.lt_trans hlen.1 (by decide), Nat.lt_trans hlen.2 (by decide)⟩ c hd (.inl hn) []
    (by rw [habs]; exact compatible_none _) ls s hrun
  rw [habs, overlay_none, prune_nil] at h
  exact h

/-- … and for an EXISTING destination that is position-wise `Compatible` with the source (a re-run of the same copy, a
destination directory with other entries; symbolic links may sit under names the source does not list): no interleaving
can make an operation fail, and every complete run ends with the destination OVERLAID with the source tree -/
theorem existing_destination_any_interleaving (fs : Fs) (c : Cfg) (hd : c.dereference = false) (hn : c.noClobber = false)
    (src tb : RPath) (srcNode : Node) (fuel : Nat)
    (hwf : FsEq fs fs) (hroot : fs.root.isDir = true)
    (hsrc : PlainTarget fs src) (hsn : fs.root.getAt src.names = some srcNode)
    (hcop : srcNode.Copyable fuel)
    (htb : PlainTarget fs tb) (hne : tb.names ≠ [])
    (hcompat : Compatible (fs.root.getAt tb.names) srcNode)
    (hpar : ∃ es, fs.root.getAt tb.names.dropLast = some (.dir es))
    (hun1 : ¬ src.names <+: tb.names) (hun2 : ¬ tb.names <+: src.names)
    (hlen : src.names.length + fuel < 200 ∧ tb.names.length + fuel < 200)
    (ls : List L0.Label) (s : L0.St)
    (hrun : L0.run c (L0.init fs (walkEntry fs c none src tb (fuel + 1) [] [])) ls = some s) :
    s.failed = false ∧
    (L0.final s = true →
      FsEq s.fs { fs with root := fs.root.setAt tb.names (Node.overlay (fs.root.getAt tb.names) srcNode) }) := by
  have _ := hroot
  rw [walkEntry_none] at hrun
  have h := overlay_concurrent_ok (srcNode := srcNode) ⟨hwf, hsrc, hsn, hcop, htb, hne, hpar, ⟨hun1, hun2⟩, Nat.lt_trans hlen.1 (by decide), Nat.lt_trans hlen.2 (by decide)⟩ c hd (.inl hn) []
    (by rw [prune_nil]; exact hcompat) ls s hrun
  rw [prune_nil] at h
  exact h

/-- … and for SEVERAL sources whose operations interleave (`xcp -r s1 … sn DEST/`: the walker goes through the sources one
after the other while workers still complete operations of earlier ones): with distinct base names, sources and targets
mutually unrelated and each target compatible in the initial state, no interleaving can make an operation fail and every
complete run ends with every source overlaid at `DEST/basename` -/
theorem several_sources_any_interleaving (fs : Fs) (c : Cfg) (dest : RPath) (items : List CopySrc) (fuel : Nat)
    (hd : c.dereference = false) (hn : c.noClobber = false)
    (hwf : FsEq fs fs)
    (hdest : PlainTarget fs dest) (hdd : ∃ es, fs.root.getAt dest.names = some (.dir es))
    (hfuel : fuel < walkFuel)
    (hsrc : ∀ e ∈ items, PlainTarget fs e.path ∧ e.path.fileName = some e.base ∧
      fs.root.getAt e.path.names = some e.node ∧ e.node.Copyable fuel ∧ e.path.names.length + walkFuel < 256)
    (hnd : (items.map (·.base)).Nodup)
    (hun : ∀ e ∈ items, ∀ e' ∈ items,
      ¬ e.path.names <+: dest.names ++ [e'.base] ∧ ¬ dest.names ++ [e'.base] <+: e.path.names)
    (hcomp : ∀ e ∈ items, Compatible (fs.root.getAt (dest.names ++ [e.base])) e.node)
    (hlen : dest.names.length + 1 + walkFuel < 256)
    (ls : List L0.Label) (s : L0.St)
    (hrun : L0.run c (L0.init fs (multiOps fs c dest items)) ls = some s) :
    s.failed = false ∧ (L0.final s = true →
      FsEq s.fs { fs with root := overlayAll fs.root dest.names items fs.root }) := by
  have _ := hdest   -- idle: the statement mentions `dest` only through `dest.names`
  obtain ⟨fs', hex, heq⟩ := multi_sequential fs c dest items fuel ⟨hwf, hdd, hfuel, hsrc, hnd, hun, hlen⟩ hd hn hcomp
  obtain ⟨hops, hspec, htodo⟩ := multi_setup ⟨hwf, hdd, hfuel, hsrc, hnd, hun, hlen⟩ c hd (.inl hn)
  rw [hops] at hrun hex
  have h := run_ok_and_refines hspec (List.forall_mem_map.2 fun e he => head0_of_compatible (hcomp e he)) c hwf
    (.inl hn) (List.forall_mem_map.2 fun e _ => parentDir_child e.base hdd) htodo hex ls s hrun
  exact ⟨h.1, fun hfin => (h.2 hfin).trans heq⟩

/-- … and with `--dereference` (`-L`) onto a fresh target: the operations read from the canonical places the links lead
to — anywhere in the namespace — and write below the target; no interleaving can make one fail, and every complete run of
the concurrent model ends with the tree seen through the links (`s.erase`) at the target -/
theorem dereference_fresh_destination_any_interleaving (fs : Fs) (c : Cfg) (hd : c.dereference = true) (hn : c.noClobber = false)
    (src tb : RPath) (s : SNode) (fuel : Nat)
    (hwf : FsEq fs fs)
    (hsrc : AbsNames src)
    (hder : derefS fs (fuel + 1) src.names [] = some s)
    (htb : PlainTarget fs tb) (hne : tb.names ≠ []) (habs : fs.root.getAt tb.names = none)
    (hpar : ∃ es, fs.root.getAt tb.names.dropLast = some (.dir es))
    (hlen : tb.names.length + fuel < 255)
    (ls : List L0.Label) (st : L0.St)
    (hrun : L0.run c (L0.init fs (walkEntry fs c none src tb (fuel + 1) [] [])) ls = some st) :
    st.failed = false ∧
    (L0.final st = true → FsEq st.fs { fs with root := fs.root.setAt tb.names s.erase }) :=
  deref_fresh_concurrent_of_overlay fs c hd hn src tb s fuel hwf hsrc hder htb hne habs hpar hlen ls st hrun

/-- the exit STATUS of a clashing copy is the same on every interleaving: for a destination of directories and regular
files that is not `Compatible` with the source (C02 `clashing_destination_exits_nonzero`: the sequential run exits
non-zero), NO run of the concurrent model — any interleaving, worker count, driver — completes without having failed;
and since a run that has neither failed nor finished can always take a step (`a_run_never_sticks`), every maximal run
ends failed.  (WHAT such a failing run leaves behind does depend on the schedule: recorded finding F14.) -/
theorem clashing_destination_fails_on_every_interleaving (fs : Fs) (c : Cfg) (hd : c.dereference = false) (hn : c.noClobber = false)
    (src tb : RPath) (srcNode dstNode : Node) (fuel : Nat)
    (hwf : FsEq fs fs) (hroot : fs.root.isDir = true)
    (hsrc : PlainTarget fs src) (hsn : fs.root.getAt src.names = some srcNode)
    (hcop : srcNode.Copyable fuel)
    (htb : PlainTarget fs tb) (hne : tb.names ≠ [])
    (hdst : fs.root.getAt tb.names = some dstNode) (hplain : dstNode.plainTree = true)
    (hclash : ¬ Compatible (some dstNode) srcNode)
    (hpar : ∃ es, fs.root.getAt tb.names.dropLast = some (.dir es))
    (hun1 : ¬ src.names <+: tb.names) (hun2 : ¬ tb.names <+: src.names)
    (hlen : src.names.length + fuel < 200 ∧ tb.names.length + fuel < 200)
    (ls : List L0.Label) (s : L0.St)
    (hrun : L0.run c (L0.init fs (walkEntry fs c none src tb (fuel + 1) [] [])) ls = some s)
    (hfin : L0.final s = true) : s.failed = true := by
  exact (clash_fails (.of_hyps hwf hroot hsrc hsn hcop htb hne hpar hun1 hun2 hlen) c hd hn hdst
    (plainWhereMapped_of_plainTree dstNode srcNode hplain) hclash).2 ls s hrun hfin

/-- a run of the concurrent model that has not failed and is not finished can always take a step -/
theorem a_run_never_sticks (c : Cfg) (s : L0.St) (hf : s.failed = false) (hn : L0.final s = false) :
    ∃ l s', L0.step c s l = some s' :=
  L0.unfailed_unfinished_can_step c s hf hn

/-- the hypotheses are satisfiable: the instance of `XcpProofs/ClashExample.lean` (a source directory `sub` meets a
regular file one level down, after a sibling that is copied) meets all of them, fails on a concrete interleaving by
evaluation, and on every interleaving by the theorem -/
example : ∃ s, L0.run {} (L0.init ClashExample.exFs (walkEntry ClashExample.exFs {} none ClashExample.src ClashExample.tb
    (ClashExample.fuel + 1) [] [])) ClashExample.ls1 = some s ∧ L0.final s = true ∧ s.failed = true :=
  ClashExample.instance_fails_on_an_interleaving

/-- … the same for SEVERAL sources whose operations interleave: when one target clashes, no run of the concurrent model
over the concatenated lists completes without having failed -/
theorem several_sources_one_clash_fails_on_every_interleaving (fs : Fs) (c : Cfg) (dest : RPath) (items : List CopySrc)
    (fuel : Nat)
    (hd : c.dereference = false) (hn : c.noClobber = false)
    (hwf : FsEq fs fs)
    (hdd : ∃ es, fs.root.getAt dest.names = some (.dir es))
    (hfuel : fuel < walkFuel)
    (hsrc : ∀ e ∈ items, PlainTarget fs e.path ∧ e.path.fileName = some e.base ∧
      fs.root.getAt e.path.names = some e.node ∧ e.node.Copyable fuel ∧ e.path.names.length + walkFuel < 256)
    (hnd : (items.map (·.base)).Nodup)
    (hun : ∀ e ∈ items, ∀ e' ∈ items,
      ¬ e.path.names <+: dest.names ++ [e'.base] ∧ ¬ dest.names ++ [e'.base] <+: e.path.names)
    (hplain : ∀ e ∈ items, ∀ d, fs.root.getAt (dest.names ++ [e.base]) = some d → d.plainTree = true)
    (hlen : dest.names.length + 1 + walkFuel < 256)
    (hclash : ∃ e ∈ items, ¬ Compatible (fs.root.getAt (dest.names ++ [e.base])) e.node)
    (ls : List L0.Label) (s : L0.St)
    (hrun : L0.run c (L0.init fs (multiOps fs c dest items)) ls = some s)
    (hfin : L0.final s = true) : s.failed = true :=
  (multi_clash_fails ⟨hwf, hdd, hfuel, hsrc, hnd, hun, hlen⟩ c hd hn
    (fun e he d hd => plainWhereMapped_of_plainTree d e.node (hplain e he d hd)) hclash).2 ls s hrun hfin

/-- … and `-L` onto an EXISTING compatible destination (C02 `dereferenced_tree_overlays_an_existing_destination`): no
interleaving can make an operation fail, and every complete run ends with the overlay -/
theorem dereference_existing_destination_any_interleaving (fs : Fs) (c : Cfg) (hd : c.dereference = true) (hn : c.noClobber = false)
    (src tb : RPath) (s : SNode) (fuel : Nat)
    (hwf : FsEq fs fs)
    (hsrc : AbsNames src)
    (hder : derefS fs (fuel + 1) src.names [] = some s)
    (htb : PlainTarget fs tb) (hne : tb.names ≠ [])
    (hcompat : Compatible (fs.root.getAt tb.names) s.erase)
    (hpar : ∃ es, fs.root.getAt tb.names.dropLast = some (.dir es))
    (hout : ReadsAway s tb.names)
    (hlen : tb.names.length + fuel < 255)
    (ls : List L0.Label) (st : L0.St)
    (hrun : L0.run c (L0.init fs (walkEntry fs c none src tb (fuel + 1) [] [])) ls = some st) :
    st.failed = false ∧
    (L0.final st = true →
      FsEq st.fs { fs with root := fs.root.setAt tb.names (Node.overlay (fs.root.getAt tb.names) s.erase) }) :=
  overlay_deref_concurrent_ok ⟨hwf, hsrc, hder, htb, hne, hpar, hlen⟩ c hd hn hcompat hout ls st hrun

/-- … and the same with `--gitignore` patterns in force (clash judged against the PRUNED tree) and with `--dereference`
(against the tree seen through the links): where the sequential run exits non-zero, no run of the concurrent model completes
without having failed; where it succeeds, every complete run ends in the same overlay (C17
`existing_destination_overlaid_on_every_interleaving`, `dereference_existing_destination_any_interleaving` above) -/
theorem clash_with_gitignore_or_dereference_fails_on_every_interleaving :
    (∀ (fs : Fs) (c : Cfg), c.dereference = false → c.noClobber = false → ∀ (ps : List Gi.Pattern)
      (src tb : RPath) (srcNode dstNode : Node) (fuel : Nat),
      FsEq fs fs → fs.root.isDir = true → PlainTarget fs src → fs.root.getAt src.names = some srcNode → srcNode.Copyable fuel →
      PlainTarget fs tb → tb.names ≠ [] → fs.root.getAt tb.names = some dstNode → dstNode.plainTree = true →
      ¬ Compatible (some dstNode) (Node.prune ps [] srcNode) →
      (∃ es, fs.root.getAt tb.names.dropLast = some (.dir es)) →
      ¬ src.names <+: tb.names → ¬ tb.names <+: src.names →
      (src.names.length + fuel < 200 ∧ tb.names.length + fuel < 200) →
      ∀ (ls : List L0.Label) (s : L0.St),
        L0.run c (L0.init fs (walkEntry fs c (some ps) src tb (fuel + 1) [] [])) ls = some s → L0.final s = true → s.failed = true) ∧
    (∀ (fs : Fs) (c : Cfg), c.dereference = true → c.noClobber = false → ∀ (src tb : RPath) (s : SNode) (dstNode : Node) (fuel : Nat),
      FsEq fs fs → AbsNames src → derefS fs (fuel + 1) src.names [] = some s →
      PlainTarget fs tb → tb.names ≠ [] → fs.root.getAt tb.names = some dstNode → dstNode.plainTree = true →
      ¬ Compatible (some dstNode) s.erase →
      (∃ es, fs.root.getAt tb.names.dropLast = some (.dir es)) → ReadsAway s tb.names → tb.names.length + fuel < 255 →
      ∀ (ls : List L0.Label) (st : L0.St),
        L0.run c (L0.init fs (walkEntry fs c none src tb (fuel + 1) [] [])) ls = some st → L0.final st = true → st.failed = true) :=
  ⟨fun _ c hd hn ps _ _ _ _ _ hwf hroot hsrc hsn hcop htb hne hdst hplain hclash hpar hun1 hun2 hlen ls s hrun hfin =>
     (gitignore_clash_fails (.of_hyps hwf hroot hsrc hsn hcop htb hne hpar hun1 hun2 hlen) c hd hn ps hdst
       (plainWhereMapped_of_plainTree _ _ hplain) hclash).2 ls s hrun hfin,
   fun _ c hd hn _ _ _ dstNode _ hwf hsrc hder htb hne hdst hplain hclash hpar _ hlen ls st hrun hfin =>
     (deref_clash_fails ⟨hwf, hsrc, hder, htb, hne, hpar, hlen⟩ c hd hn hdst
       (plainWhereMapped_of_plainTree dstNode _ hplain) hclash).2 ls st hrun hfin⟩

/-- the totals of the update stream of a failure-free run are the same on every schedule -/
theorem update_totals_schedule_independent (files : List Nat) (s1 s2 : Status.St)
    (h1 : Status.Reachable files s1) (h2 : Status.Reachable files s2)
    (f1 : Status.final s1 = true) (f2 : Status.final s2 = true) (ok1 : s1.failed = false) (ok2 : s2.failed = false) :
    sumSize s1.log = sumSize s2.log ∧ sumCopied s1.log = sumCopied s2.log := by
  have a := C12.complete_run_totals files s1 h1 f1 ok1
  have b := C12.complete_run_totals files s2 h2 f2 ok2
  omega

end Xcp.C06
