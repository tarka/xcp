import XcpModel.Walker
import XcpProofs.Overlay
import XcpProofs.OverlayConc
import XcpProofs.Clash
import XcpProofs.MultiGi
/-! # C17 — `--gitignore` copies exactly the entries the root .gitignore does not exclude

PARTIAL by nature: the pattern engine xcp uses is the third-party `ignore`/`globset` crate; no theorem is
about it.  What is proved is about (a) the Lean SPECIFICATION of git's pattern semantics for the fragment
the property quantifies over (`Xcp.Gi`), and (b) the walker's pruning discipline (`walkEntry`): an excluded
entry emits nothing and is not descended into, so an excluded directory excludes everything beneath it and a
negation cannot re-include below it; the root itself is never filtered (the `fix:` commit); without the option
nothing is filtered.  At tree level (`destination_is_the_pruned_source_tree`, from `XcpProofs/Overlay.lean`): for ANY pattern list and any
copyable source tree copied to a fresh target, the destination is EXACTLY the source tree minus the excluded entries
(`Node.prune`: an entry is dropped iff `keeps` rejects its relative path with the entry's own is-directory flag, and
with it everything beneath), at every depth.  The flag is the entry's OWN type (`giIsDir`): a symbolic link to a
directory is not a directory for a pattern unless the walk follows links (finding F19, repaired by a `fix:` commit).
That xcp ≡ this spec ≡ `git check-ignore` is established by the three-way correspondence run only.  -/
namespace Xcp.C17

open Xcp Xcp.Gi

/-- the LAST matching line decides -/
theorem last_match_wins (ps : List Pattern) (p : Pattern) (comps : List Name) (d : Bool) :
    Gi.decide (ps ++ [p]) comps d =
      if p.matches comps d then (if p.negated then .whitelist else .ignore) else Gi.decide ps comps d := by
  simp [Gi.decide, List.foldl_append]

/-- with no pattern lines nothing is excluded (the .gitignore file itself and hidden files are ordinary
entries: they are copied unless a pattern names them) -/
theorem empty_ignore_keeps_everything (comps : List Name) (d : Bool) : keeps [] comps d = true :=
  rfl

theorem dropWhile_append_singleton {α} (p : α → Bool) (x : α) (hx : p x = false) :
    ∀ l : List α, (l ++ [x]).dropWhile p = l.dropWhile p ++ [x]
  | [] => by simp [List.dropWhile, hx]
  | a :: l => by
    simp only [List.cons_append, List.dropWhile]
    cases p a
    · rfl
    · exact dropWhile_append_singleton p x hx l

/-- trimming trailing white space never removes a leading `#` -/
theorem trimEnd_hash (r : List UInt8) : ∃ r', trimEnd (35 :: r) = 35 :: r' := by
  refine ⟨(r.reverse.dropWhile (fun b => b = 32 || b = 9 || b = 13)).reverse, ?_⟩
  unfold trimEnd
  rw [List.reverse_cons, dropWhile_append_singleton _ _ (by decide)]
  simp

/-- blank lines and comments are skipped -/
theorem blank_and_comment_lines_skipped (r : List UInt8) : parseLine [] = none ∧ parseLine (35 :: r) = none := by
  refine ⟨by decide, ?_⟩
  obtain ⟨r', hr⟩ := trimEnd_hash r
  simp only [parseLine, hr]

/-- a directory-only pattern (trailing `/`) never matches a non-directory -/
theorem dir_only_pattern_needs_directory (p : Pattern) (h : p.dirOnly = true) (comps : List Name) :
    p.matches comps false = false := by
  simp [Pattern.matches, h]

/-- without the option there is no filter at all -/
theorem no_option_no_filter (fs : Fs) (c : Cfg) (texts : GiTexts) (src : RPath) (h : c.gitignore = false) :
    parseIgnore fs c texts src = none := by
  simp [parseIgnore, h]

/-- an excluded entry below the root emits no operation and is not descended into: an excluded directory
excludes everything beneath it, and no negation further down can re-include anything -/
theorem excluded_entry_is_pruned (fs : Fs) (c : Cfg) (ps : List Pattern) (src tb : RPath) (fuel : Nat)
    (rel : List Name) (anc : List (List Name)) (hr : rel ≠ [])
    (hx : keeps ps rel (giIsDir fs c (relJoin src rel)) = false) :
    walkEntry fs c (some ps) src tb (fuel + 1) rel anc = [] ∨
    walkEntry fs c (some ps) src tb (fuel + 1) rel anc = [.fail] := by
  refine walkEntry_succ_cases (P := fun l => l = [] ∨ l = [.fail]) (.inr rfl) (.inl rfl) ?_
  intro cp lnode fromP canon node _ _ _ hgd _
  have hpos : decide (rel.length > 0) = true := decide_eq_true (List.length_pos_iff.2 hr)
  rw [giDrops, hx, hpos] at hgd
  cases hgd

/-- the root of the walk is never filtered, whatever the patterns say about its name: the only branch of
`walkEntry` that yields no operation at all is the gitignore filter, and it is disabled at depth 0 — so the
root entry always yields at least one operation (or the failure marker), with or without patterns -/
theorem root_entry_is_never_empty (fs : Fs) (c : Cfg) (gi : Ignore) (src tb : RPath) (fuel : Nat)
    (anc : List (List Name)) : walkEntry fs c gi src tb (fuel + 1) [] anc ≠ [] := by
  obtain ⟨h, hh⟩ := walkEntry_root_cons fs c src tb fuel anc
  obtain ⟨t, ht⟩ := hh gi
  rw [ht]
  exact List.cons_ne_nil h t

/-- … and the operation emitted for the root itself is the same with and without patterns -/
theorem root_first_operation_ignores_patterns (fs : Fs) (c : Cfg) (ps : List Pattern) (src tb : RPath)
    (fuel : Nat) (anc : List (List Name)) :
    (walkEntry fs c (some ps) src tb (fuel + 1) [] anc).head? =
      (walkEntry fs c none src tb (fuel + 1) [] anc).head? := by
  obtain ⟨h, hh⟩ := walkEntry_root_cons fs c src tb fuel anc
  obtain ⟨t, ht⟩ := hh (some ps)
  obtain ⟨t', ht'⟩ := hh none
  rw [ht, ht']
  rfl

/-- vacuous: the hypothesis is refuted by `root_entry_is_never_empty`; kept as the statement of the property's clause -/
theorem root_is_never_filtered (fs : Fs) (c : Cfg) (ps : List Pattern) (src tb : RPath) (fuel : Nat) (anc : List (List Name)) :
    walkEntry fs c (some ps) src tb (fuel + 1) [] anc = [] →
    walkEntry fs c none src tb (fuel + 1) [] anc = [] :=
  fun h => absurd h (root_entry_is_never_empty fs c (some ps) src tb fuel anc)

/-- the specification on the fragment's typical lines (evaluated by the kernel; byte lists spelled out):
`build/`, `*.o`, `/top`, `a/**/z`, `a/**`, and `*.o` followed by `!keep.o` -/
example : (parseLine [98, 117, 105, 108, 100, 47]).map (·.matches [[98, 117, 105, 108, 100]] true) = some true := by decide
example : (parseLine [98, 117, 105, 108, 100, 47]).map (·.matches [[98, 117, 105, 108, 100]] false) = some false := by decide
example : (parseLine [42, 46, 111]).map (·.matches [[115, 114, 99], [97, 46, 111]] false) = some true := by decide
example : (parseLine [47, 116, 111, 112]).map (·.matches [[115], [116, 111, 112]] false) = some false := by decide
example : (parseLine [97, 47, 42, 42, 47, 122]).map (·.matches [[97], [120], [121], [122]] false) = some true := by decide
example : (parseLine [97, 47, 42, 42]).map (·.matches [[97]] true) = some false := by decide
example : Gi.decide (Gi.parse [42, 46, 111, 10, 33, 107, 101, 101, 112, 46, 111, 10]) [[107, 101, 101, 112, 46, 111]] false = .whitelist := by decide

/-- a symbolic link is not a directory for the pattern match unless the walk follows links (the repaired defect F19:
`Path::is_dir()` followed the link, so `lnk/` excluded a link to a directory that git keeps) -/
theorem link_is_not_a_directory_for_patterns (fs : Fs) (c : Cfg) (p : RPath) (cp : List Name) (t : RPath)
    (hd : c.dereference = false) (h : fs.lstat p = some (cp, .link t)) : giIsDir fs c p = false := by
  simp [giIsDir, h, hd]

/-- Tree level: with patterns `ps` in force, copying any copyable source tree to a fresh target runs every emitted
operation successfully and leaves exactly the PRUNED source tree at the target: `Node.prune ps [] srcNode` drops an entry
iff `keeps ps <relative path> <entry is a directory>` is false, together with everything beneath it, at every depth; the
root itself is never tested -/
theorem destination_is_the_pruned_source_tree (fs : Fs) (c : Cfg) (hd : c.dereference = false) (hn : c.noClobber = false)
    (ps : List Gi.Pattern)
    (src tb : RPath) (srcNode : Node) (fuel : Nat)
    (hwf : FsEq fs fs) (hroot : fs.root.isDir = true)
    (hsrc : PlainTarget fs src) (hsn : fs.root.getAt src.names = some srcNode)
    (hcop : srcNode.Copyable fuel)
    (htb : PlainTarget fs tb) (hne : tb.names ≠ []) (habs : fs.root.getAt tb.names = none)
    (hpar : ∃ es, fs.root.getAt tb.names.dropLast = some (.dir es))
    (hun1 : ¬ src.names <+: tb.names) (hun2 : ¬ tb.names <+: src.names)
    (hlen : src.names.length + fuel < 200 ∧ tb.names.length + fuel < 200) :
    ∃ fs', execOps fs c (walkEntry fs c (some ps) src tb (fuel + 1) [] []) = ⟨.ok, fs'⟩ ∧
      FsEq fs' { fs with root := fs.root.setAt tb.names (Node.prune ps [] srcNode) } :=
  mirror_fresh_gitignore (.of_hyps hwf hroot hsrc hsn hcop htb hne hpar hun1 hun2 hlen) c hd hn ps habs

/-- … so an excluded entry, at any depth, and everything below it, is absent from the destination (no negation further
down re-includes anything) … -/
theorem excluded_entry_and_everything_below_is_absent (fs : Fs) (c : Cfg) (hd : c.dereference = false) (hn : c.noClobber = false)
    (ps : List Gi.Pattern)
    (src tb : RPath) (srcNode : Node) (fuel : Nat)
    (hwf : FsEq fs fs) (hroot : fs.root.isDir = true)
    (hsrc : PlainTarget fs src) (hsn : fs.root.getAt src.names = some srcNode)
    (hcop : srcNode.Copyable fuel)
    (htb : PlainTarget fs tb) (hne : tb.names ≠ []) (habs : fs.root.getAt tb.names = none)
    (hpar : ∃ es, fs.root.getAt tb.names.dropLast = some (.dir es))
    (hun1 : ¬ src.names <+: tb.names) (hun2 : ¬ tb.names <+: src.names)
    (hlen : src.names.length + fuel < 200 ∧ tb.names.length + fuel < 200)
    (rel : List Name) (m : Name) (ch : Node) (below : List Name)
    (hch : srcNode.getAt (rel ++ [m]) = some ch)
    (hx : Gi.keeps ps (rel ++ [m]) ch.isDir = false) :
    ∃ fs', execOps fs c (walkEntry fs c (some ps) src tb (fuel + 1) [] []) = ⟨.ok, fs'⟩ ∧
      fs'.root.getAt (tb.names ++ (rel ++ [m]) ++ below) = none := by
  obtain ⟨fs', hex, heq⟩ := mirror_fresh_gitignore (.of_hyps hwf hroot hsrc hsn hcop htb hne hpar hun1 hun2 hlen) c hd hn ps habs
  exact ⟨fs', hex, excluded_absent ps heq.2.2.2 hcop hpar rel m ch below hch hx⟩

/-- … a kept entry of the source root is present, observed as in the source … -/
theorem kept_entry_is_copied (fs : Fs) (c : Cfg) (hd : c.dereference = false) (hn : c.noClobber = false)
    (ps : List Gi.Pattern)
    (src tb : RPath) (srcNode : Node) (fuel : Nat)
    (hwf : FsEq fs fs) (hroot : fs.root.isDir = true)
    (hsrc : PlainTarget fs src) (hsn : fs.root.getAt src.names = some srcNode)
    (hcop : srcNode.Copyable fuel)
    (htb : PlainTarget fs tb) (hne : tb.names ≠ []) (habs : fs.root.getAt tb.names = none)
    (hpar : ∃ es, fs.root.getAt tb.names.dropLast = some (.dir es))
    (hun1 : ¬ src.names <+: tb.names) (hun2 : ¬ tb.names <+: src.names)
    (hlen : src.names.length + fuel < 200 ∧ tb.names.length + fuel < 200)
    (m : Name) (ch : Node) (hch : srcNode.getAt [m] = some ch)
    (hk : Gi.keeps ps [m] ch.isDir = true) :
    ∃ fs', execOps fs c (walkEntry fs c (some ps) src tb (fuel + 1) [] []) = ⟨.ok, fs'⟩ ∧
      obsAt fs'.root (tb.names ++ [m]) = some (Node.prune ps [m] ch).obs ∧
      (Node.prune ps [m] ch).obs = ch.obs := by
  obtain ⟨fs', hex, heq⟩ := mirror_fresh_gitignore (.of_hyps hwf hroot hsrc hsn hcop htb hne hpar hun1 hun2 hlen) c hd hn ps habs
  refine ⟨fs', hex, ?_, by cases ch <;> simp [Node.prune, Node.obs]⟩
  obtain ⟨es, c0, he, hg, hcc⟩ := Node.getAt_cons_some hch
  simp only [getAt_nil, Option.some.injEq] at hcc
  subst hcc; subst he
  obtain ⟨_, _, hnd, _⟩ := copyable_dir hcop
  rw [heq.2.2.2 (tb.names ++ [m])]
  simp only [obsAt]
  rw [getAt_setAt_below fs.root tb.names _ hpar]
  simp only [Node.prune, getAt_dir_cons]
  rw [entGet_pruneL_of ps [] es hnd m c0 hg (by simpa using hk)]
  simp

/-- … and with no pattern lines nothing is pruned -/
theorem no_patterns_prune_nothing (rel : List Name) (n : Node) : Node.prune [] rel n = n := prune_nil n rel

/-- … under EVERY interleaving of the walker with the workers (any worker count, either driver): with patterns in force no
operation can be made to fail and every complete run of the concurrent model leaves exactly the pruned source tree at the
target — the operations of the pruned tree read from the places of the unpruned one, which nothing writes -/
theorem every_interleaving_leaves_the_pruned_tree (fs : Fs) (c : Cfg) (hd : c.dereference = false) (hn : c.noClobber = false)
    (ps : List Gi.Pattern)
    (src tb : RPath) (srcNode : Node) (fuel : Nat)
    (hwf : FsEq fs fs) (hroot : fs.root.isDir = true)
    (hsrc : PlainTarget fs src) (hsn : fs.root.getAt src.names = some srcNode)
    (hcop : srcNode.Copyable fuel)
    (htb : PlainTarget fs tb) (hne : tb.names ≠ []) (habs : fs.root.getAt tb.names = none)
    (hpar : ∃ es, fs.root.getAt tb.names.dropLast = some (.dir es))
    (hun1 : ¬ src.names <+: tb.names) (hun2 : ¬ tb.names <+: src.names)
    (hlen : src.names.length + fuel < 200 ∧ tb.names.length + fuel < 200)
    (ls : List L0.Label) (st : L0.St)
    (hrun : L0.run c (L0.init fs (walkEntry fs c (some ps) src tb (fuel + 1) [] [])) ls = some st) :
    st.failed = false ∧
    (L0.final st = true → FsEq st.fs { fs with root := fs.root.setAt tb.names (Node.prune ps [] srcNode) }) := by
  have _ := hroot
  have h := overlay_concurrent_ok ⟨hwf, hsrc, hsn, hcop, htb, hne, hpar, ⟨hun1, hun2⟩, Nat.lt_trans hlen.1 (by decide), Nat.lt_trans hlen.2 (by decide)⟩ c hd (.inl hn) ps
    (by rw [habs]; exact compatible_none _) ls st hrun
  rw [habs, overlay_none] at h
  exact h

/-- onto an EXISTING destination that is `Compatible` with the PRUNED source tree (a re-run of the same copy, a destination
with other entries): every operation succeeds and the destination is overlaid with the pruned tree -/
theorem existing_destination_is_overlaid_with_the_pruned_tree (fs : Fs) (c : Cfg) (hd : c.dereference = false) (hn : c.noClobber = false)
    (ps : List Gi.Pattern)
    (src tb : RPath) (srcNode : Node) (fuel : Nat)
    (hwf : FsEq fs fs) (hroot : fs.root.isDir = true)
    (hsrc : PlainTarget fs src) (hsn : fs.root.getAt src.names = some srcNode)
    (hcop : srcNode.Copyable fuel)
    (htb : PlainTarget fs tb) (hne : tb.names ≠ [])
    (hcompat : Compatible (fs.root.getAt tb.names) (Node.prune ps [] srcNode))
    (hpar : ∃ es, fs.root.getAt tb.names.dropLast = some (.dir es))
    (hun1 : ¬ src.names <+: tb.names) (hun2 : ¬ tb.names <+: src.names)
    (hlen : src.names.length + fuel < 200 ∧ tb.names.length + fuel < 200) :
    ∃ fs', execOps fs c (walkEntry fs c (some ps) src tb (fuel + 1) [] []) = ⟨.ok, fs'⟩ ∧
      FsEq fs' { fs with
        root := fs.root.setAt tb.names (Node.overlay (fs.root.getAt tb.names) (Node.prune ps [] srcNode)) } :=
  gitignore_overlay (.of_hyps hwf hroot hsrc hsn hcop htb hne hpar hun1 hun2 hlen) c hd (.inl hn) ps hcompat

/-- … under every interleaving of the walker with the workers -/
theorem existing_destination_overlaid_on_every_interleaving (fs : Fs) (c : Cfg) (hd : c.dereference = false) (hn : c.noClobber = false)
    (ps : List Gi.Pattern)
    (src tb : RPath) (srcNode : Node) (fuel : Nat)
    (hwf : FsEq fs fs) (hroot : fs.root.isDir = true)
    (hsrc : PlainTarget fs src) (hsn : fs.root.getAt src.names = some srcNode)
    (hcop : srcNode.Copyable fuel)
    (htb : PlainTarget fs tb) (hne : tb.names ≠ [])
    (hcompat : Compatible (fs.root.getAt tb.names) (Node.prune ps [] srcNode))
    (hpar : ∃ es, fs.root.getAt tb.names.dropLast = some (.dir es))
    (hun1 : ¬ src.names <+: tb.names) (hun2 : ¬ tb.names <+: src.names)
    (hlen : src.names.length + fuel < 200 ∧ tb.names.length + fuel < 200)
    (ls : List L0.Label) (st : L0.St)
    (hrun : L0.run c (L0.init fs (walkEntry fs c (some ps) src tb (fuel + 1) [] [])) ls = some st) :
    st.failed = false ∧
    (L0.final st = true → FsEq st.fs { fs with
      root := fs.root.setAt tb.names (Node.overlay (fs.root.getAt tb.names) (Node.prune ps [] srcNode)) }) := by
  have _ := hroot
  exact overlay_concurrent_ok ⟨hwf, hsrc, hsn, hcop, htb, hne, hpar, ⟨hun1, hun2⟩, Nat.lt_trans hlen.1 (by decide), Nat.lt_trans hlen.2 (by decide)⟩ c hd (.inl hn) ps hcompat ls st hrun

/-- … and what the destination holds under a name the source HAS but the patterns EXCLUDE (left by an earlier copy made
without the option, say) is observed unchanged at every depth: excluded means not copied, not removed -/
theorem excluded_names_already_in_the_destination_are_left_alone (fs : Fs) (c : Cfg) (hd : c.dereference = false)
    (hn : c.noClobber = false) (ps : List Gi.Pattern)
    (src tb : RPath) (des ses : Entries) (fuel : Nat)
    (hwf : FsEq fs fs) (hroot : fs.root.isDir = true)
    (hsrc : PlainTarget fs src) (hsn : fs.root.getAt src.names = some (.dir ses))
    (hcop : (Node.dir ses).Copyable fuel)
    (htb : PlainTarget fs tb) (hne : tb.names ≠ [])
    (hdst : fs.root.getAt tb.names = some (.dir des))
    (hcompat : Compatible (some (.dir des)) (Node.prune ps [] (.dir ses)))
    (hpar : ∃ es, fs.root.getAt tb.names.dropLast = some (.dir es))
    (hun1 : ¬ src.names <+: tb.names) (hun2 : ¬ tb.names <+: src.names)
    (hlen : src.names.length + fuel < 200 ∧ tb.names.length + fuel < 200) :
    ∃ fs', execOps fs c (walkEntry fs c (some ps) src tb (fuel + 1) [] []) = ⟨.ok, fs'⟩ ∧
      (∀ m q, m ∉ (pruneL ps [] ses).map (·.1) →
        obsAt fs'.root (tb.names ++ m :: q) = obsAt fs.root (tb.names ++ m :: q)) ∧
      (∀ m ch q, (m, ch) ∈ ses → Gi.keeps ps [m] ch.isDir = false →
        obsAt fs'.root (tb.names ++ m :: q) = obsAt fs.root (tb.names ++ m :: q)) := by
  obtain ⟨fs', hrun, heq⟩ := gitignore_overlay (.of_hyps hwf hroot hsrc hsn hcop htb hne hpar hun1 hun2 hlen) c hd (.inl hn) ps (by rw [hdst]; exact hcompat)
  have key : ∀ m q, m ∉ (pruneL ps [] ses).map (·.1) →
      obsAt fs'.root (tb.names ++ m :: q) = obsAt fs.root (tb.names ++ m :: q) := by
    intro m q hm
    rw [heq.2.2.2 (tb.names ++ m :: q), hdst]
    simp only [obsAt, Node.prune]
    rw [overlay_keeps_entry fs.root tb.names des (pruneL ps [] ses) m q hdst hm]
  refine ⟨fs', hrun, key, ?_⟩
  intro m ch q hmem hx
  obtain ⟨_, _, hnd, _⟩ := copyable_dir hcop
  exact key m q (excluded_not_in_pruneL ps [] ses hnd m ch hmem (by simpa using hx))

/-- "exit 0 ⇒ the destination is the overlay of the PRUNED tree", no compatibility assumed, for every absent or plain
destination: a destination entry that clashes with an entry the patterns keep makes the run fail (on every interleaving:
`Xcp.gitignore_clash_fails`); one that clashes only with an EXCLUDED entry does not count -/
theorem exit_zero_implies_overlaid_with_the_pruned_tree (fs : Fs) (c : Cfg) (hd : c.dereference = false) (hn : c.noClobber = false)
    (ps : List Gi.Pattern)
    (src tb : RPath) (srcNode : Node) (fuel : Nat)
    (hwf : FsEq fs fs) (hroot : fs.root.isDir = true)
    (hsrc : PlainTarget fs src) (hsn : fs.root.getAt src.names = some srcNode)
    (hcop : srcNode.Copyable fuel)
    (htb : PlainTarget fs tb) (hne : tb.names ≠ [])
    (hplain : ∀ d, fs.root.getAt tb.names = some d → d.plainTree = true)
    (hpar : ∃ es, fs.root.getAt tb.names.dropLast = some (.dir es))
    (hun1 : ¬ src.names <+: tb.names) (hun2 : ¬ tb.names <+: src.names)
    (hlen : src.names.length + fuel < 200 ∧ tb.names.length + fuel < 200)
    (fs' : Fs) (hok : execOps fs c (walkEntry fs c (some ps) src tb (fuel + 1) [] []) = ⟨.ok, fs'⟩) :
    FsEq fs' { fs with
      root := fs.root.setAt tb.names (Node.overlay (fs.root.getAt tb.names) (Node.prune ps [] srcNode)) } := by
  exact gitignore_ok_implies_overlaid (.of_hyps hwf hroot hsrc hsn hcop htb hne hpar hun1 hun2 hlen) c hd hn ps
    (fun d h => plainWhereMapped_of_plainTree d _ (hplain d h)) fs' hok

/-- Several sources, each filtered by the `.gitignore` at its own root (`parseIgnore` per source, as `runSources` and the
program do): every target is overlaid with its source pruned by that source's patterns.  The `.gitignore` must not be a
symbolic link (`hgl`): the proof attempt found that a link leading into the destination can be re-pointed, in effect, by the
copy of an earlier source, so that the later source is filtered by other patterns than those in force at the start -/
theorem several_sources_each_filtered_by_its_own_gitignore (fs : Fs) (c : Cfg) (texts : GiTexts) (dest : RPath) (items : List GiSrc) (fuel : Nat)
    (hd : c.dereference = false) (hn : c.noClobber = false) (hg : c.gitignore = true)
    (hnt : c.noTargetDir = false)
    (hwf : FsEq fs fs)
    (hdest : PlainTarget fs dest) (hdd : ∃ es, fs.root.getAt dest.names = some (.dir es))
    (hfuel : fuel < walkFuel)
    (hsrc : ∀ e ∈ items, PlainTarget fs e.path ∧ e.path.fileName = some e.base ∧
      fs.root.getAt e.path.names = some e.node ∧ e.node.Copyable fuel ∧ e.path.names.length + walkFuel < 256)
    (hps : ∀ e ∈ items, parseIgnore fs c texts e.path = some e.ps)
    (hgl : ∀ e ∈ items, ∀ tg, fs.root.getAt (e.path.names ++ [giName]) ≠ some (.link tg))
    (hnd : (items.map (·.base)).Nodup)
    (hun : ∀ e ∈ items, ∀ e' ∈ items,
      ¬ e.path.names <+: dest.names ++ [e'.base] ∧ ¬ dest.names ++ [e'.base] <+: e.path.names)
    (hcomp : ∀ e ∈ items, Compatible (fs.root.getAt (dest.names ++ [e.base])) (Node.prune e.ps [] e.node))
    (hlen : dest.names.length + 1 + walkFuel < 256) :
    ∃ fs', runSources fs c texts dest (items.map (·.path)) = ⟨.ok, fs'⟩ ∧
      FsEq fs' { fs with root := overlayAll fs.root dest.names (items.map GiSrc.pruned) fs.root } :=
  have _ := hg   -- implied by `hps` as soon as there is a source
  multi_gitignore_overlay fs c texts dest items fuel ⟨hwf, hdd, hfuel, hsrc, hps, hgl, hnd, hun, hlen⟩ hd hn hnt hdest
    hcomp

/-- the per-source reading on an instance: `/A/.gitignore` = "x", `/B/.gitignore` = "y", both hold `x` and `y`: `x` is absent
under `/D/A` and present under `/D/B`, `y` the other way round -/
example : ∃ fs', runSources MultiGiExample.fs0 MultiGiExample.c0 MultiGiExample.texts0 (plainPath [MultiGiExample.nD])
      [plainPath [MultiGiExample.nA], plainPath [MultiGiExample.nB]] = ⟨.ok, fs'⟩ ∧
    obsAt fs'.root [MultiGiExample.nD, MultiGiExample.nA, MultiGiExample.nx] = none ∧
    obsAt fs'.root [MultiGiExample.nD, MultiGiExample.nB, MultiGiExample.nx] = some (.file 3) ∧
    obsAt fs'.root [MultiGiExample.nD, MultiGiExample.nA, MultiGiExample.ny] = some (.file 2) ∧
    obsAt fs'.root [MultiGiExample.nD, MultiGiExample.nB, MultiGiExample.ny] = none :=
  MultiGiExample.example_run

end Xcp.C17