import XcpModel.Handle
import XcpProofs.HandleLemmas
/-! # C10 — permissions, timestamps, xattrs and ownership are preserved as requested

Model slice: `finaliseSteps` (the order of `finalise_copy`) and `applyFStep` (what each call does to the
destination's metadata).  `chownFx` — what the kernel's `chown` does to the mode bits — is an arbitrary
function: the theorems hold whatever set-id bits the kernel clears.  That finalisation happens after the
last data write on every schedule is `Xcp.Pool.writes_before_finalise` (C18).  -/
namespace Xcp.C10

open Xcp

/-- All 12 permission bits, whatever `chown` cleared on the way (ownership is applied first). -/
theorem mode_preserved (c : Cfg) (src d : FMeta) (fx : Nat → Nat) (h : c.noPerms = false) :
    (finalise c src fx d).mode = src.mode := by
  rw [finalise_eq, h]
  rfl

/-- Modification time to the nanosecond. -/
theorem mtime_preserved (c : Cfg) (src d : FMeta) (fx : Nat → Nat) (h : c.noTimestamps = false) :
    (finalise c src fx d).mtime = src.mtime := by
  rw [finalise_eq, h]
  rfl

/-- Owner and group when requested. -/
theorem owner_preserved (c : Cfg) (src d : FMeta) (fx : Nat → Nat) (h : c.ownership = true) :
    (finalise c src fx d).uid = src.uid ∧ (finalise c src fx d).gid = src.gid := by
  rw [finalise_eq, h]
  exact ⟨rfl, rfl⟩

/-- `--no-perms`: the mode is not transferred — the destination keeps its default or previous mode
(as touched by `chown` if ownership is also requested). -/
theorem no_perms_keeps_mode (c : Cfg) (src d : FMeta) (fx : Nat → Nat) (h : c.noPerms = true) :
    (finalise c src fx d).mode = (if c.ownership then fx d.mode else d.mode) := by
  rw [finalise_eq, h]
  rfl

/-- `--no-timestamps`: the mtime is not transferred — it stays what the writes left (a current time). -/
theorem no_timestamps_keeps_mtime (c : Cfg) (src d : FMeta) (fx : Nat → Nat) (h : c.noTimestamps = true) :
    (finalise c src fx d).mtime = d.mtime := by
  rw [finalise_eq, h]
  rfl

/-- `--no-perms` also leaves the destination's extended attributes alone (they travel with the permissions). -/
theorem no_perms_keeps_xattrs (c : Cfg) (src d : FMeta) (fx : Nat → Nat) (h : c.noPerms = true) :
    (finalise c src fx d).xattrs = d.xattrs := by
  rw [finalise_eq, h]
  rfl

/-- Without `--ownership` owner and group are not transferred, and the mode never passes through `chown`. -/
theorem no_ownership_keeps_owner (c : Cfg) (src d : FMeta) (fx : Nat → Nat) (h : c.ownership = false) :
    (finalise c src fx d).uid = d.uid ∧ (finalise c src fx d).gid = d.gid ∧
    (finalise c src fx d).mode = (if c.noPerms then d.mode else src.mode) := by
  rw [finalise_eq, h]
  exact ⟨rfl, rfl, rfl⟩

/-- The exact attribute map of the destination: the source's value where the source has the key (last
listing wins), otherwise whatever the destination had — nothing is removed, nothing else is added. -/
theorem xattrs_exact (c : Cfg) (src d : FMeta) (fx : Nat → Nat) (h : c.noPerms = false) (k : Name) :
    xaGet (finalise c src fx d).xattrs k =
      (xaGet src.xattrs.reverse k).or (xaGet d.xattrs k) := by
  have key : (finalise c src fx d).xattrs = src.xattrs.foldl (fun acc kv => xaSet acc kv.1 kv.2) d.xattrs := by
    rw [finalise_eq, h]
    rfl
  rw [key, xaGet_foldl]
  cases xaGet src.xattrs.reverse k <;> rfl

/-- User extended attributes: every attribute of the source is present with the source's value
(the last one wins if the source lists a key twice). -/
theorem xattrs_preserved (c : Cfg) (src d : FMeta) (fx : Nat → Nat) (h : c.noPerms = false)
    (k : Name) (v : Bytes) (hk : xaGet src.xattrs.reverse k = some v) :
    xaGet (finalise c src fx d).xattrs k = some v := by
  rw [xattrs_exact c src d fx h, hk]
  rfl

/-- `--fsync` changes no metadata. -/
theorem fsync_changes_nothing (c : Cfg) (src d : FMeta) (fx : Nat → Nat) :
    finalise { c with fsync := true } src fx d = finalise { c with fsync := false } src fx d := by
  rw [finalise_eq, finalise_eq]

/-- The order that makes `mode_preserved` true: whenever both are issued, `chown` comes before `chmod`
(and before the attribute writes), and `fsync`, when issued, is last. -/
theorem chown_first_fsync_last (c : Cfg) :
    (c.ownership = true → (finaliseSteps c).head? = some .chown) ∧
    (c.ownership = false → FStep.chown ∉ finaliseSteps c) ∧
    (c.fsync = true → (finaliseSteps c).getLast? = some .fsync) ∧
    (finaliseSteps c).Nodup := by
  unfold finaliseSteps
  refine ⟨fun h => ?_, fun h => ?_, fun h => ?_, ?_⟩
  · rw [h]
    rfl
  · rw [h]
    cases c.noPerms <;> cases c.noTimestamps <;> cases c.fsync <;> decide
  · rw [h]
    exact List.getLast?_concat
  · cases c.ownership <;> cases c.noPerms <;> cases c.noTimestamps <;> cases c.fsync <;> decide

/-- The defect repaired by the `fix:` commit "apply ownership before permissions": with the old order
(permissions, timestamps, ownership) Linux' chown drops the set-id bits of mode 06755. -/
theorem old_order_loses_setid :
    ∃ (c : Cfg) (src d : FMeta), c.ownership = true ∧ c.noPerms = false ∧
      ((finaliseStepsOld c).foldl (applyFStep src linuxChownFx) d).mode ≠ src.mode :=
  ⟨{ ownership := true }, ⟨0o6755, 0, 0, 0, []⟩, ⟨0o644, 0, 0, 0, []⟩, rfl, rfl, by decide⟩

/-- Non-vacuity: the repaired order keeps 06755 under the same kernel behaviour. -/
example : (finalise { ownership := true } ⟨0o6755, 5, 6, 123456789, []⟩ linuxChownFx ⟨0o644, 0, 0, 0, []⟩).mode = 0o6755 := by decide

end Xcp.C10
