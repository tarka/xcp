import XcpModel.Handle
import XcpProofs.HandleLemmas
/-! # C15 — reflink modes keep their contract: never clones, always insists, auto falls back

Model slice: `classifyClone` (libfs `reflink`), `tryReflink` (`CopyHandle::try_reflink`) and `fileProgram`
(what is done to one destination file); the clone ioctl's answer is an arbitrary oracle value.
Byte-exactness of the fallback copy is C01/C05's theorem.  -/
namespace Xcp.C15

open Xcp

/-- `never`: no clone request is issued, whatever the kernel would answer. -/
theorem never_issues_no_clone (linux : Bool) (ans : CloneAns) : (tryReflink .never linux ans).1 = false := by
  rfl

/-- The complete decision table of `try_reflink`, stated outright: the outcome is `cloned` exactly when a clone
request was issued and the kernel accepted it (never under `never`, never without the Linux backend); `always`
never ends in a data copy; `never` always does. -/
theorem decision_table (m : Reflink) (linux : Bool) (ans : CloneAns) :
    ((tryReflink m linux ans).2 = .cloned ↔ m ≠ .never ∧ linux = true ∧ ans = .ok) ∧
    ((tryReflink m linux ans).1 = true ↔ m ≠ .never ∧ linux = true) ∧
    (m = .always → (tryReflink m linux ans).2 ≠ .copy) ∧
    (m = .never → (tryReflink m linux ans).2 = .copy) ∧
    (m = .auto → linux = false → (tryReflink m linux ans).2 = .copy) := by
  rw [← classifyClone_ok_true]
  unfold tryReflink
  generalize classifyClone ans = r
  cases m
  · cases linux
    · simp
    · rcases r with _ | _ | _ <;> simp
  · cases linux
    · simp
    · rcases r with _ | _ | _ <;> simp
  · simp

theorem never_program_has_no_clone (c : Cfg) (h : c.reflink = .never) (len : Nat) (ans : CloneAns) (nd : Nat) (ok : Bool) :
    ∀ x ∈ (fileProgram c len ans nd ok).1, isClone x = false := by
  intro x hx
  rcases mem_fileProgram hx with rfl | rfl | ⟨h1, _⟩ | ⟨_, rfl⟩ | ⟨s, rfl⟩
  · rfl
  · rfl
  · exact absurd h ((decision_table _ _ _).2.1.1 h1).1
  · rfl
  · rfl

/-- `always`: the file succeeds only through a successful clone, and then no data call is made. -/
theorem always_succeeds_only_by_clone (c : Cfg) (h : c.reflink = .always) (len : Nat) (ans : CloneAns) (nd : Nat) (ok : Bool)
    (hs : (fileProgram c len ans nd ok).2 = true) :
    ans = .ok ∧ c.linux = true ∧ FCall.clone true ∈ (fileProgram c len ans nd ok).1 ∧
    ∀ x ∈ (fileProgram c len ans nd ok).1, isData x = false := by
  obtain ⟨t1, t2, t3, -, -⟩ := decision_table c.reflink c.linux ans
  have hcl : (tryReflink c.reflink c.linux ans).2 = .cloned := by
    have hnc := t3 h
    rw [fileProgram_eq] at hs
    revert hs hnc
    cases (tryReflink c.reflink c.linux ans).2 <;> simp
  obtain ⟨hn, hl, ha⟩ := t1.1 hcl
  refine ⟨ha, hl, ?_, ?_⟩
  · rw [fileProgram_eq]
    simp [tailOf, t2.2 ⟨hn, hl⟩, hcl]
  · intro x hx
    rcases mem_fileProgram hx with rfl | rfl | ⟨_, rfl⟩ | ⟨h2, _⟩ | ⟨s, rfl⟩
    · rfl
    · rfl
    · rfl
    · rw [hcl] at h2; cases h2
    · rfl

/-- `always` with cloning unsupported (any 'unsupported' errno, a hard error, or the build without the Linux
backend): the file fails. -/
theorem always_unsupported_fails (c : Cfg) (h : c.reflink = .always) (len : Nat) (ans : CloneAns) (nd : Nat) (ok : Bool)
    (hu : ans ≠ .ok ∨ c.linux = false) : (fileProgram c len ans nd ok).2 = false := by
  obtain ⟨t1, -, t3, -, -⟩ := decision_table c.reflink c.linux ans
  have hnc := t3 h
  have hncl : (tryReflink c.reflink c.linux ans).2 ≠ .cloned := by
    intro hc
    obtain ⟨_, hl, ha⟩ := t1.1 hc
    rcases hu with hu | hu
    · exact hu ha
    · rw [hl] at hu; cases hu
  rw [fileProgram_eq]
  revert hncl hnc
  cases (tryReflink c.reflink c.linux ans).2 <;> simp

/-- `auto`: the clone request comes first (before any data call) … -/
theorem auto_tries_clone_first (c : Cfg) (h : c.reflink = .auto) (hl : c.linux = true) (len : Nat) (ans : CloneAns) (nd : Nat) (ok : Bool) :
    ∃ b rest, (fileProgram c len ans nd ok).1 = .create :: .truncate len :: .clone b :: rest ∧
      ∀ x ∈ rest, isClone x = false := by
  have h1 := (decision_table c.reflink c.linux ans).2.1.2 ⟨by rw [h]; decide, hl⟩
  rw [fileProgram_eq]
  refine ⟨_, List.replicate _ FCall.data ++ (finaliseSteps c).map FCall.fin, by simp only [tailOf, h1]; rfl, ?_⟩
  exact fun x hx => Bool.eq_false_iff.2 (List.any_eq_false.1 (any_isClone_tail _ _) x hx)

/-- … and when cloning is unavailable (exactly EOPNOTSUPP, EINVAL, EXDEV, ETXTBSY) it falls back to the data
copy, whose success decides the file's success. -/
theorem auto_falls_back (c : Cfg) (h : c.reflink = .auto) (len : Nat) (e : Errno) (nd : Nat) (ok : Bool)
    (hu : e = .EOPNOTSUPP ∨ e = .EINVAL ∨ e = .EXDEV ∨ e = .ETXTBSY) :
    (fileProgram c len (.err e) nd ok).2 = ok ∧
    ((fileProgram c len (.err e) nd ok).1.filter isData).length = nd := by
  have hc := tryReflink_auto_unsupported c.linux e ((classifyClone_unsupported e).2 hu)
  rw [← h] at hc
  rw [fileProgram_eq, hc]
  refine ⟨rfl, ?_⟩
  unfold tailOf
  rw [hc]
  cases (tryReflink c.reflink c.linux (.err e)).1
  · exact filter_isData_tail nd _
  · exact filter_isData_tail nd _

/-- any other clone error is a failure in both `auto` and `always` -/
theorem hard_clone_error_fails (c : Cfg) (hm : c.reflink ≠ .never) (hl : c.linux = true) (len : Nat) (e : Errno) (nd : Nat) (ok : Bool)
    (hu : ¬ (e = .EOPNOTSUPP ∨ e = .EINVAL ∨ e = .EXDEV ∨ e = .ETXTBSY)) :
    (fileProgram c len (.err e) nd ok).2 = false := by
  rw [← classifyClone_unsupported] at hu
  rw [fileProgram_eq, hl]
  cases hc : classifyClone (.err e) with
  | error e' =>
    cases hr : c.reflink with
    | never => exact absurd hr hm
    | auto => simp [tryReflink, hc]
    | always => simp [tryReflink, hc]
  | ok b =>
    cases b
    · exact absurd hc hu
    · cases (classifyClone_ok_true _).1 hc

/-- the trace monitor run on real traces accepts every program the model can produce -/
theorem monitor_sound (c : Cfg) (len : Nat) (ans : CloneAns) (nd : Nat) (ok : Bool) :
    monitorFile c len (fileProgram c len ans nd ok).1 = true := by
  have hr := (decision_table c.reflink c.linux ans).2.1.1
  rw [fileProgram_eq]
  unfold tailOf
  generalize tryReflink c.reflink c.linux ans = r at hr ⊢
  obtain ⟨b, o⟩ := r
  cases b
  · exact monitor_shape c len none _ (fun _ => rfl) (fun h => by cases h)
  · refine monitor_shape c len (some _) _ (fun h => absurd h (hr rfl).1) (fun h => ?_)
    cases o
    · rfl
    · simp at h
    · simp at h

/-- the monitor is not vacuous: it rejects a data copy after a successful clone, a clone under `never`,
and finalisation before data -/
example : monitorFile {} 5 [.create, .truncate 5, .clone true, .data, .fin .setxattrs, .fin .chmod, .fin .utimens] = false := by decide
example : monitorFile { reflink := .never } 5 [.create, .truncate 5, .clone false, .data, .fin .chmod, .fin .utimens] = false := by decide
example : monitorFile {} 5 [.create, .truncate 5, .clone false, .fin .chmod, .data, .fin .utimens] = false := by decide
example : monitorFile {} 5 [.create, .truncate 5, .clone false, .data, .data, .fin .setxattrs, .fin .chmod, .fin .utimens] = true := by decide

end Xcp.C15
