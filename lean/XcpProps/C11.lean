import XcpProofs.Loops
import XcpProofs.Extents
import XcpProofs.Compose
import XcpProofs.Sparse
/-! # C11 — holes stay holes: sparse files are copied without materialising them

What a theorem can say: the model tracks which byte ranges of the destination are WRITTEN.  Both drivers
write only inside the data ranges reported for the source — SEEK_DATA/SEEK_HOLE segments (parfile) or
merged FIEMAP extents (parblock; merging adds at most the one-byte gaps of C19) — whatever the block size,
and `create`+`ftruncate` forgets a previous, fully allocated destination.  Hence the number of written
bytes is bounded by the reported data, independently of the size of the holes.  That unwritten ranges of a
truncated file occupy no storage is the file system's contract (ext4), measured on every run.
Labelled partial for that reason.  -/
namespace Xcp.C11

open Xcp

/-- parfile: every byte written by `copy_sparse` lies inside a data segment found by the segment search. -/
theorem parfile_writes_within_segments (k : Kern) (s : SeekOracle) (src : Bytes) (hs : KernSafe k src.length)
    (hl : SeekLegal s src) (b fuel a n : Nat) (h : (copySparse k s b src.length fuel a 0).stop = .ok n) :
    ∀ i, covered (jobsOf (copySparse k s b src.length fuel a 0).evs) i →
      ∃ seg ∈ segmentsOf s src.length (src.length + 1) 0, seg.1 ≤ i ∧ i < seg.2 :=
  fun i => (copySparse_covered k s src hs hl b fuel a 0 n (src.length + 1) (by omega) h i).mp

/-- parblock: every block queued for a sparse file lies inside a merged extent … -/
theorem parblock_blocks_within_merged_extents (len b : Nat) (hb : 0 < b) (es : List Extent) :
    ∀ j ∈ parblockJobs len b true (some es), ∀ i, j.1 ≤ i → i < j.1 + j.2 → covers (mergeExtents es) i :=
  parblockJobs_within_merged len b hb es

/-- … hence inside an original extent, or on the single byte between two extents merged as adjacent. -/
theorem parblock_writes_within_extents (len b : Nat) (hb : 0 < b) (es : List Extent) (hw : WF es) :
    ∀ j ∈ parblockJobs len b true (some es), ∀ i, j.1 ≤ i → i < j.1 + j.2 →
      covers es i ∨ ∃ x ∈ es, ∃ y ∈ es, y.start = x.stop + 1 ∧ i = x.stop := by
  intro j hj i h1 h2
  exact merge_sound es hw i (parblockJobs_within_merged len b hb es j hj i h1 h2)

/-- what a block job actually writes stays inside its block (short counts and retries included) -/
theorem blockJob_writes_within_block (k : Kern) (len : Nat) (hs : KernSafe k len) (hl : KernLive k len)
    (off bytes n : Nat) (ho : off ≤ len) (h : (blockJob k true off bytes).stop = .ok n) :
    ∀ i, covered (jobsOf (blockJob k true off bytes).evs) i → off ≤ i ∧ i < off + bytes := by
  intro i hc
  have := ((blockJob_linux_ok k len hs hl off bytes n ho h).2 i).mp hc
  exact ⟨this.1, (Nat.lt_min.mp this.2).1⟩

/-- Overwriting an existing, fully allocated destination: after create+ftruncate nothing is written. -/
theorem overwrite_starts_unwritten (old : Option Bytes) (n : Nat) :
    createAllocate old n = createAllocate none n := rfl

/-- an entirely empty (all-hole) file: the segment search finds no data, nothing is written, the copy succeeds -/
theorem all_hole_writes_nothing (k : Kern) (len b : Nat) (a : Nat) :
    (copySparse k ⟨fun _ => none, fun _ => none⟩ b len (len + 1) a 0).evs = [] ∧
    (copySparse k ⟨fun _ => none, fun _ => none⟩ b len (len + 1) a 0).stop = .ok len := by
  rw [copySparse_allHole]
  exact ⟨rfl, rfl⟩

/-- parblock, an entirely empty (all-hole) file — FIEMAP reports no extent: no block is queued, whatever the
length and block size, so nothing is ever written to the destination. -/
theorem parblock_all_hole_queues_nothing (len b : Nat) : parblockJobs len b true (some []) = [] := rfl

end Xcp.C11
