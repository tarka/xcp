import XcpProofs.FsDefs
import XcpProofs.FsFrame
import XcpProofs.OverlayConc
import XcpProofs.MultiConc
import XcpProofs.MultiCollision
import XcpProofs.DerefOverlay
import XcpProofs.EndToEndMore
/-! # C08 — `--no-clobber` never alters anything that already exists in the destination

Model slice: the walker's existence probe (`lstat` after the `fix:` commit) and `execOps`.
`fresh_run_preserves` is an invariant over every prefix of the run (hence every kill point, and — as each
operation's effect is confined to its own fresh target — every interleaving of distinct-target operations).
Gap: that the walker's probe (made when the entry is visited) still holds when the operation
later executes is assumed (`FreshRun`); it can only fail when two sources map onto one target (finding F10)
or something else creates the target meanwhile; the correspondence run checks it on every real trace.
For one source tree the hypothesis is discharged (`XcpProofs/RunInv.lean`, `run_fresh_preserves`): if the source's target exists nothing
is emitted (`collision_emits_no_operation`), and if it is absent every operation of the walk executes on a target that
does not exist at that moment — sequentially (`one_source_walk_is_a_fresh_run`) and in every interleaving of the
concurrent model (`one_source_any_interleaving_preserves`) — so nothing that existed before is altered; likewise for
SEVERAL sources with distinct base names whose operations interleave (`several_sources_any_interleaving_preserve`). -/
namespace Xcp.C08

open Xcp

/-- one operation executed on a target that does not exist alters no existing entry -/
theorem fresh_op_preserves (fs fs' : Fs) (c : Cfg) (op : Op)
    (hf : ∀ t, opTarget op = some t → fs.lexists t = false) (h : execOp fs c op = some fs') :
    Preserved fs.root fs'.root :=
  execOp_fresh_preserved fs fs' c op hf h

theorem preserved_trans (a b c : Node) (h1 : Preserved a b) (h2 : Preserved b c) : Preserved a c :=
  Preserved.trans h1 h2

/-- a whole run (and every prefix of it: the statement is for all op lists) of fresh operations alters no
entry that existed before: not modified, replaced, truncated, renamed or removed -/
theorem fresh_run_preserves (fs : Fs) (c : Cfg) (ops : List Op) (h : FreshRun fs c ops) :
    Preserved fs.root (execOps fs c ops).fs.root := by
  induction ops generalizing fs with
  | nil => exact Preserved.refl _
  | cons op r ih =>
    obtain ⟨hf, hr⟩ := h
    simp only [execOps]
    cases he : execOp fs c op with
    | none => exact Preserved.refl _
    | some fs' =>
      rw [he] at hr
      exact preserved_trans _ _ _ (fresh_op_preserves fs fs' c op hf he) (ih fs' hr)

/-- the walker, with no-clobber set, emits NO operation for an entry whose target exists — be it a file, a
directory, a special file, or a live or dangling symbolic link — but stops the walk (or the entry was
excluded by .gitignore) -/
theorem collision_emits_no_operation (fs : Fs) (c : Cfg) (hn : c.noClobber = true) (gi : Ignore) (src tb : RPath)
    (fuel : Nat) (rel : List Name) (anc : List (List Name)) (hx : fs.lexists (relJoin tb rel) = true) :
    walkEntry fs c gi src tb (fuel + 1) rel anc = [.fail] ∨ walkEntry fs c gi src tb (fuel + 1) rel anc = [] := by
  refine walkEntry_succ_cases (P := fun l => l = [.fail] ∨ l = []) (.inl rfl) (.inr rfl) ?_
  intro cp lnode fromP canon node _ _ _ _ hnc
  rw [hn, hx] at hnc
  cases hnc

/-- a stopped walk makes the run end with a non-zero status -/
theorem fail_in_ops_exits_nonzero (fs : Fs) (c : Cfg) (ops : List Op) (h : Op.fail ∈ ops) :
    (execOps fs c ops).exit = .err := by
  induction ops generalizing fs with
  | nil => cases h
  | cons op r ih =>
    simp only [execOps]
    cases he : execOp fs c op with
    | none => rfl
    | some fs' =>
      cases h with
      | head => simp [execOp] at he
      | tail _ hm => exact ih fs' hm

/-- a failed operation changes nothing: `execOps` stops at the state before it -/
theorem failed_run_is_prefix (fs : Fs) (c : Cfg) (ops : List Op) :
    ∃ done, done <+: ops ∧ (execOps fs c ops).fs = (execOps fs c done).fs ∧ (execOps fs c done).exit = .ok := by
  induction ops generalizing fs with
  | nil => exact ⟨[], List.prefix_refl _, rfl, rfl⟩
  | cons op r ih =>
    cases he : execOp fs c op with
    | none => exact ⟨[], List.nil_prefix, by simp [execOps, he], rfl⟩
    | some fs' =>
      obtain ⟨done, hd, h1, h2⟩ := ih fs'
      exact ⟨op :: done, List.cons_prefix_cons.2 ⟨rfl, hd⟩, by simp [execOps, he, h1], by simp [execOps, he, h2]⟩

/-- Non-vacuity: a dangling link at the target is an existing entry (the defect repaired by the `fix:` commit
on the no-clobber probe: `exists()` followed the link and reported "absent"). -/
example :
    let root : Node := .dir [([68], .dir [([102], .link ⟨true, [.name [110], .name [111]], false⟩)])]
    let fs : Fs := ⟨root, []⟩
    fs.lexists ⟨true, [.name [68], .name [102]], false⟩ = true ∧ fs.exists ⟨true, [.name [68], .name [102]], false⟩ = false := by
  decide

/-- `FreshRun` discharged for one source tree: the operations the walker emits under no-clobber for any copyable tree
and an absent plain target are each executed when their target does not exist; hence the whole run (and every prefix)
alters no entry that existed before, anywhere -/
theorem one_source_walk_is_a_fresh_run (fs : Fs) (c : Cfg) (hd : c.dereference = false) (hn : c.noClobber = true)
    (src tb : RPath) (srcNode : Node) (fuel : Nat)
    (hwf : FsEq fs fs) (hroot : fs.root.isDir = true)
    (hsrc : PlainTarget fs src) (hsn : fs.root.getAt src.names = some srcNode)
    (hcop : srcNode.Copyable fuel)
    (htb : PlainTarget fs tb) (hne : tb.names ≠ []) (habs : fs.root.getAt tb.names = none)
    (hpar : ∃ es, fs.root.getAt tb.names.dropLast = some (.dir es))
    (hun1 : ¬ src.names <+: tb.names) (hun2 : ¬ tb.names <+: src.names)
    (hlen : src.names.length + fuel < 200 ∧ tb.names.length + fuel < 200) :
    FreshRun fs c (walkEntry fs c none src tb (fuel + 1) [] []) ∧
    Preserved fs.root (execOps fs c (walkEntry fs c none src tb (fuel + 1) [] [])).fs.root := by
  have _ := hn      -- the statement holds whatever `noClobber` is; this is the case C08 is about
  have _ := hwf
  have _ := hroot
  obtain ⟨hshape, hspec, htodo⟩ := copySpec_of_walk fs c hd [] src tb srcNode fuel hsrc hsn hcop htb hne (.inr habs) hpar
    ⟨hun1, hun2⟩ ⟨Nat.lt_trans hlen.1 (by decide), Nat.lt_trans hlen.2 (by decide)⟩
  rw [prune_nil] at hshape hspec htodo
  rw [walkEntry_none, hshape]
  have h := copy_freshRun hspec (List.forall_mem_singleton.2 habs) c (List.forall_mem_singleton.2 hpar) htodo
  exact ⟨h, freshRun_preserved c _ fs h⟩

/-- … and in EVERY reachable state of the concurrent model (any interleaving of the walker with the completions of queued
operations, any worker count, either driver): every entry that existed initially is kept, and whichever operation
completes next, or whichever directory the walker creates next, has a target that does not exist at that moment -/
theorem one_source_any_interleaving_preserves (fs : Fs) (c : Cfg) (hd : c.dereference = false) (hn : c.noClobber = true)
    (src tb : RPath) (srcNode : Node) (fuel : Nat)
    (hwf : FsEq fs fs) (hroot : fs.root.isDir = true)
    (hsrc : PlainTarget fs src) (hsn : fs.root.getAt src.names = some srcNode)
    (hcop : srcNode.Copyable fuel)
    (htb : PlainTarget fs tb) (hne : tb.names ≠ []) (habs : fs.root.getAt tb.names = none)
    (hpar : ∃ es, fs.root.getAt tb.names.dropLast = some (.dir es))
    (hun1 : ¬ src.names <+: tb.names) (hun2 : ¬ tb.names <+: src.names)
    (hlen : src.names.length + fuel < 200 ∧ tb.names.length + fuel < 200)
    (ls : List L0.Label) (s : L0.St)
    (hrun : L0.run c (L0.init fs (walkEntry fs c none src tb (fuel + 1) [] [])) ls = some s) :
    Preserved fs.root s.fs.root ∧
    (∀ op ∈ s.queue, ∀ t, opTarget op = some t → s.fs.lexists t = false) ∧
    (∀ op r, s.todo = op :: r → ∀ t, opTarget op = some t → s.fs.lexists t = false) := by
  have _ := hn
  have _ := hwf
  have _ := hroot
  obtain ⟨hshape, hspec, htodo⟩ := copySpec_of_walk fs c hd [] src tb srcNode fuel hsrc hsn hcop htb hne (.inr habs) hpar
    ⟨hun1, hun2⟩ ⟨Nat.lt_trans hlen.1 (by decide), Nat.lt_trans hlen.2 (by decide)⟩
  rw [walkEntry_none, hshape] at hrun
  have h := run_fresh_preserves hspec (List.forall_mem_singleton.2 habs) c (List.forall_mem_singleton.2 hpar) htodo
    ls s hrun
  exact ⟨h.1, h.2.1, h.2.2.1⟩

/-- Several sources in one run, their operations interleaved (`xcp -n -r s1 … sn DEST/`, distinct base names, all targets
absent — an existing target makes the walker stop, `collision_emits_no_operation`): in EVERY reachable state of the
concurrent model every initial entry is kept, the operation that completes next and the directory the walker creates next
have targets that do not exist at that moment, and nothing has failed -/
theorem several_sources_any_interleaving_preserve (fs : Fs) (c : Cfg) (dest : RPath) (items : List CopySrc) (fuel : Nat)
    (hd : c.dereference = false) (hn : c.noClobber = true)
    (hwf : FsEq fs fs)
    (hdest : PlainTarget fs dest) (hdd : ∃ es, fs.root.getAt dest.names = some (.dir es))
    (hfuel : fuel < walkFuel)
    (hsrc : ∀ e ∈ items, PlainTarget fs e.path ∧ e.path.fileName = some e.base ∧
      fs.root.getAt e.path.names = some e.node ∧ e.node.Copyable fuel ∧ e.path.names.length + walkFuel < 256)
    (hnd : (items.map (·.base)).Nodup)
    (hun : ∀ e ∈ items, ∀ e' ∈ items,
      ¬ e.path.names <+: dest.names ++ [e'.base] ∧ ¬ dest.names ++ [e'.base] <+: e.path.names)
    (habs : ∀ e ∈ items, fs.root.getAt (dest.names ++ [e.base]) = none)
    (hlen : dest.names.length + 1 + walkFuel < 256)
    (ls : List L0.Label) (s : L0.St)
    (hrun : L0.run c (L0.init fs (multiOps fs c dest items)) ls = some s) :
    Preserved fs.root s.fs.root ∧
    (∀ op ∈ s.queue, ∀ t, opTarget op = some t → s.fs.lexists t = false) ∧
    (∀ op r, s.todo = op :: r → ∀ t, opTarget op = some t → s.fs.lexists t = false) ∧
    s.failed = false := by
  have _ := hn
  have _ := hdest   -- idle: the statement mentions `dest` only through `dest.names`
  exact multi_noclobber_any_interleaving ⟨hwf, hdd, hfuel, hsrc, hnd, hun, hlen⟩ c hd habs ls s hrun

/-- … and with `--gitignore` patterns in force as well: in every reachable state every initial entry is kept, and the
operation that completes next / the directory the walker creates next has a target that does not exist at that moment -/
theorem one_source_with_gitignore_any_interleaving_preserves (fs : Fs) (c : Cfg) (hd : c.dereference = false) (hn : c.noClobber = true)
    (ps : List Gi.Pattern)
    (src tb : RPath) (srcNode : Node) (fuel : Nat)
    (hwf : FsEq fs fs) (hroot : fs.root.isDir = true)
    (hsrc : PlainTarget fs src) (hsn : fs.root.getAt src.names = some srcNode)
    (hcop : srcNode.Copyable fuel)
    (htb : PlainTarget fs tb) (hne : tb.names ≠ []) (habs : fs.root.getAt tb.names = none)
    (hpar : ∃ es, fs.root.getAt tb.names.dropLast = some (.dir es))
    (hun1 : ¬ src.names <+: tb.names) (hun2 : ¬ tb.names <+: src.names)
    (hlen : src.names.length + fuel < 200 ∧ tb.names.length + fuel < 200)
    (ls : List L0.Label) (st : L0.St)
    (hrun : L0.run c (L0.init fs (walkEntry fs c (some ps) src tb (fuel + 1) [] [])) ls = some st) :
    Preserved fs.root st.fs.root ∧
    (∀ op ∈ st.queue, ∀ t, opTarget op = some t → st.fs.lexists t = false) ∧
    (∀ op r, st.todo = op :: r → ∀ t, opTarget op = some t → st.fs.lexists t = false) := by
  have _ := hn
  have _ := hwf
  have _ := hroot
  obtain ⟨hshape, hspec, htodo⟩ := copySpec_of_walk fs c hd ps src tb srcNode fuel hsrc hsn hcop htb hne (.inr habs) hpar
    ⟨hun1, hun2⟩ ⟨Nat.lt_trans hlen.1 (by decide), Nat.lt_trans hlen.2 (by decide)⟩
  rw [hshape] at hrun
  have h := run_fresh_preserves hspec (List.forall_mem_singleton.2 habs) c (List.forall_mem_singleton.2 hpar) htodo
    ls st hrun
  exact ⟨h.1, h.2.1, h.2.2.1⟩

/-- Several sources, some of whose targets `DEST/basename` already exist (any kind: file, directory, special, live or
dangling link) — the case the property's second clause is about.  In EVERY reachable state of the concurrent model (the
walker stopping at the first collision while workers still complete operations of earlier sources) every initial entry is
kept and whatever completes or is created next has a target that does not exist at that moment … -/
theorem several_sources_with_collisions_preserve (fs : Fs) (c : Cfg) (dest : RPath) (items : List CopySrc) (fuel : Nat)
    (hd : c.dereference = false) (hn : c.noClobber = true)
    (hwf : FsEq fs fs)
    (hdest : PlainTarget fs dest) (hdd : ∃ es, fs.root.getAt dest.names = some (.dir es))
    (hfuel : fuel < walkFuel)
    (hsrc : ∀ e ∈ items, PlainTarget fs e.path ∧ e.path.fileName = some e.base ∧
      fs.root.getAt e.path.names = some e.node ∧ e.node.Copyable fuel ∧ e.path.names.length + walkFuel < 256)
    (hnd : (items.map (·.base)).Nodup)
    (hun : ∀ e ∈ items, ∀ e' ∈ items,
      ¬ e.path.names <+: dest.names ++ [e'.base] ∧ ¬ dest.names ++ [e'.base] <+: e.path.names)
    (hlen : dest.names.length + 1 + walkFuel < 256)
    (ls : List L0.Label) (s : L0.St)
    (hrun : L0.run c (L0.init fs (multiOps fs c dest items)) ls = some s) :
    Preserved fs.root s.fs.root ∧
    (∀ op ∈ s.queue, ∀ t, opTarget op = some t → s.fs.lexists t = false) ∧
    (∀ op r, s.todo = op :: r → ∀ t, opTarget op = some t → s.fs.lexists t = false) :=
  have _ := hdest   -- idle: the statement mentions `dest` only through `dest.names`
  multi_collision_preserves fs c dest items fuel ⟨hwf, hdd, hfuel, hsrc, hnd, hun, hlen⟩ hd hn ls s hrun

/-- … and the run ends non-zero: with at least one existing target, no run of the concurrent model completes without having
failed, and the sequential run exits non-zero (the model evaluates each source's probe in the initial state; earlier sources
write only below their own distinct targets, so this is the state the walker finds) -/
theorem a_collision_among_several_sources_exits_nonzero (fs : Fs) (c : Cfg) (dest : RPath) (items : List CopySrc) (fuel : Nat)
    (hd : c.dereference = false) (hn : c.noClobber = true)
    (hwf : FsEq fs fs)
    (hdest : PlainTarget fs dest) (hdd : ∃ es, fs.root.getAt dest.names = some (.dir es))
    (hfuel : fuel < walkFuel)
    (hsrc : ∀ e ∈ items, PlainTarget fs e.path ∧ e.path.fileName = some e.base ∧
      fs.root.getAt e.path.names = some e.node ∧ e.node.Copyable fuel ∧ e.path.names.length + walkFuel < 256)
    (hnd : (items.map (·.base)).Nodup)
    (hun : ∀ e ∈ items, ∀ e' ∈ items,
      ¬ e.path.names <+: dest.names ++ [e'.base] ∧ ¬ dest.names ++ [e'.base] <+: e.path.names)
    (hcol : ∃ e ∈ items, fs.root.getAt (dest.names ++ [e.base]) ≠ none)
    (hlen : dest.names.length + 1 + walkFuel < 256) :
    (∀ (ls : List L0.Label) (s : L0.St), L0.run c (L0.init fs (multiOps fs c dest items)) ls = some s →
      L0.final s = true → s.failed = true) ∧
    (execOps fs c (multiOps fs c dest items)).exit = .err := by
  have _ := hdest   -- idle: the statement mentions `dest` only through `dest.names`
  rcases forall_or_first (fun e : CopySrc => fs.root.getAt (dest.names ++ [e.base]) = none) items with habs | ⟨pre, e0, post, hit, hpre, hcol0⟩
  · obtain ⟨e, he, hne⟩ := hcol
    exact absurd (habs e he) hne
  · subst hit
    constructor
    · intro ls s hrun hfin
      obtain ⟨s', hrel, _⟩ := multi_collision_core fs c dest fuel pre post e0 ⟨hwf, hdd, hfuel, hsrc, hnd, hun, hlen⟩ hd hn
        hpre hcol0 ls s hrun
      cases hrel with
      | before _ _ _ h4 =>
        simp only [L0.final, Bool.and_eq_true, List.isEmpty_iff] at hfin
        rw [hfin.1] at h4
        simp at h4
      | after _ _ _ h4 _ => exact h4
    · have h0 : e0 ∈ pre ++ e0 :: post := List.mem_append_right _ List.mem_cons_self
      obtain ⟨a1, _, a3, _, a5⟩ := hsrc e0 h0
      have hmem : Op.fail ∈ multiOps fs c dest (pre ++ e0 :: post) := by
        rw [multi_collision_shape fs c dest pre post e0 hd hn hdd ⟨a1, a3, a5⟩ hcol0 hlen]
        exact List.mem_append_right _ List.mem_cons_self
      cases he : (execOps fs c (multiOps fs c dest (pre ++ e0 :: post))).exit with
      | err => rfl
      | ok => exact absurd rfl (execOps_ok_no_fail c _ fs he _ hmem)

/-- … and together with `--dereference`: the copies of what the links lead to are created like any other entry — on targets
that do not exist at that moment, keeping every initial entry, in every reachable state, and nothing fails -/
theorem one_source_with_dereference_any_interleaving_preserves (fs : Fs) (c : Cfg) (hd : c.dereference = true) (hn : c.noClobber = true)
    (src tb : RPath) (s : SNode) (fuel : Nat)
    (hwf : FsEq fs fs)
    (hsrc : AbsNames src)
    (hder : derefS fs (fuel + 1) src.names [] = some s)
    (htb : PlainTarget fs tb) (hne : tb.names ≠ []) (habs : fs.root.getAt tb.names = none)
    (hpar : ∃ es, fs.root.getAt tb.names.dropLast = some (.dir es))
    (hlen : tb.names.length + fuel < 255)
    (ls : List L0.Label) (st : L0.St)
    (hrun : L0.run c (L0.init fs (walkEntry fs c none src tb (fuel + 1) [] [])) ls = some st) :
    Preserved fs.root st.fs.root ∧
    (∀ op ∈ st.queue, ∀ t, opTarget op = some t → st.fs.lexists t = false) ∧
    (∀ op r, st.todo = op :: r → ∀ t, opTarget op = some t → st.fs.lexists t = false) ∧
    st.failed = false := by
  have _ := hn
  have H : DerefSetup fs src tb s fuel := ⟨hwf, hsrc, hder, htb, hne, hpar, hlen⟩
  obtain ⟨hshape, hspec, htodo⟩ := copySpec_of_derefWalk H c hd (.inr habs) (H.readsAway habs)
  rw [hshape] at hrun
  exact run_fresh_preserves hspec (List.forall_mem_singleton.2 habs) c (List.forall_mem_singleton.2 hpar) htodo
    ls st hrun

/-- The whole program model under `--no-clobber` (`L1run`: validation, then every source probed and walked in the state the
earlier ones left — the function the correspondence runs compare with the real program): whatever the exit (rejected by
validation, a collision, success) every entry that existed is kept, and if any target exists the exit is non-zero -/
theorem whole_invocation_keeps_what_exists_and_reports_a_collision (fs : Fs) (o : Opts) (texts : GiTexts) (dest : RPath)
    (items : List CopySrc) (fuel : Nat)
    (hd : o.cfg.dereference = false) (hn : o.cfg.noClobber = true) (hg : o.cfg.gitignore = false)
    (hnt : o.cfg.noTargetDir = false) (hglob : o.glob = false)
    (hpaths : (o.targetDir = none ∧ o.paths = items.map (·.path) ++ [dest]) ∨
      (o.targetDir = some dest ∧ o.paths = items.map (·.path)))
    (hwf : FsEq fs fs)
    (hdest : PlainTarget fs dest) (hdd : ∃ es, fs.root.getAt dest.names = some (.dir es))
    (hfuel : fuel < walkFuel)
    (hsrc : ∀ e ∈ items, PlainTarget fs e.path ∧ e.path.fileName = some e.base ∧
      fs.root.getAt e.path.names = some e.node ∧ e.node.Copyable fuel ∧ e.path.names.length + walkFuel < 256)
    (hnd : (items.map (·.base)).Nodup)
    (hun : ∀ e ∈ items, ∀ e' ∈ items,
      ¬ e.path.names <+: dest.names ++ [e'.base] ∧ ¬ dest.names ++ [e'.base] <+: e.path.names)
    (hlen : dest.names.length + 1 + walkFuel < 256) :
    Preserved fs.root (L1run fs o texts).fs.root ∧
    ((∃ e ∈ items, fs.root.getAt (dest.names ++ [e.base]) ≠ none) → (L1run fs o texts).exit = .err) :=
  whole_invocation_noclobber_preserves fs o texts dest items fuel ⟨hwf, hdd, hfuel, hsrc, hnd, hun, hlen⟩ hd hn hg hnt
    hglob hpaths hdest

end Xcp.C08