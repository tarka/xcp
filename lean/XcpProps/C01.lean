import XcpProofs.Loops
import XcpProofs.Blocks
import XcpProofs.Merge
import XcpProofs.Compose
import XcpProofs.Sparse
/-! # C01 — exit 0 implies every copied regular file is byte-identical to its source

Model slice: the destination is created/truncated and sized to the source's length
(`createAllocate`), then filled by the driver's copy loop — parfile: `copyBytes` (dense) or `copySparse`;
parblock: one `blockJob` per block of `parblockJobs`, run by pool threads in an order the scheduler
chooses.  A run exits 0 only if every loop reported success (C04).  The theorems quantify over every
file content and size, every block size ≥ 1 (including `usize::MAX`), every kernel that is `KernSafe`
(never moves more than asked, never past end of file) and `KernLive` (returns 0 only at end of file) —
that is every legal pattern of short counts — every data/hole layout the kernel may legally report,
and every order and multiplicity in which block jobs run.  -/
namespace Xcp.C01

open Xcp

/-- Nothing of a previous destination's content survives: create+truncate then `ftruncate(n)` gives `n`
zero bytes whatever was there (absent, shorter, longer). -/
theorem create_allocate_forgets (old : Option Bytes) (n : Nat) :
    createAllocate old n = List.replicate n 0 := rfl

/-- parfile, dense file: if `copy_bytes` reports success the destination equals the source. -/
theorem parfile_dense_exact (src : Bytes) (k : Kern) (hs : KernSafe k src.length) (linux : Bool) (b fuel a r : Nat)
    (h : (copyBytes k linux b fuel a 0 src.length 0).stop = .ok r) :
    runJobs src (createAllocate none src.length) (jobsOf (copyBytes k linux b fuel a 0 src.length 0).evs) = src :=
  (copyBytes_exact src k hs linux b fuel a r h).2

/-- parfile, sparse file: if `copy_sparse` reports success the destination equals the source, for every
legal data/hole answer sequence. -/
theorem parfile_sparse_exact (src : Bytes) (k : Kern) (s : SeekOracle) (hs : KernSafe k src.length)
    (hl : SeekLegal s src) (b fuel a n : Nat) (h : (copySparse k s b src.length fuel a 0).stop = .ok n) :
    runJobs src (createAllocate none src.length) (jobsOf (copySparse k s b src.length fuel a 0).evs) = src :=
  copySparse_exact k s src hs hl b fuel a n h

/-- What parblock may rely on when it copies only the mapped extents of a sparse file. -/
def ExtSound (src : Bytes) (es : List Extent) : Prop :=
  WF es ∧ (∀ e ∈ es, e.start ≤ src.length) ∧ ∀ i, i < src.length → src[i]? ≠ some 0 → covers es i

/-- parblock: every block job gets its own kernel behaviour (`k j`), every job reports success, and the
moved ranges are applied in ANY order with ANY multiplicity (`all` merely has the same members as the union
of the jobs' moves): the destination equals the source. -/
theorem parblock_exact (src : Bytes) (b : Nat) (hb : 0 < b) (sparse : Bool) (exts : Option (List Extent))
    (hext : sparse = true → ∀ es, exts = some es → ExtSound src es)
    (k : Nat × Nat → Kern) (hk : ∀ j, KernSafe (k j) src.length ∧ KernLive (k j) src.length)
    (hok : ∀ j ∈ parblockJobs src.length b sparse exts, ∃ n, (blockJob (k j) true j.1 j.2).stop = .ok n)
    (all : List (Nat × Nat))
    (hall : ∀ x, x ∈ all ↔ ∃ j ∈ parblockJobs src.length b sparse exts, x ∈ jobsOf (blockJob (k j) true j.1 j.2).evs) :
    runJobs src (createAllocate none src.length) all = src :=
  parblock_exact_core src b hb sparse exts
    (fun hsp es hes => ⟨(hext hsp es hes).1, (hext hsp es hes).2.2⟩) k hk hok all hall

/-- a successful block job reports exactly the bytes of its block that lie inside the file -/
theorem blockJob_reports_block (src : Bytes) (k : Kern) (hs : KernSafe k src.length) (hl : KernLive k src.length)
    (off bytes n : Nat) (ho : off ≤ src.length) (h : (blockJob k true off bytes).stop = .ok n) :
    off + n = min (off + bytes) src.length :=
  (blockJob_linux_ok k src.length hs hl off bytes n ho h).1

/-- with a legal kernel a block job never spins -/
theorem blockJob_terminates (src : Bytes) (k : Kern) (hs : KernSafe k src.length) (hl : KernLive k src.length)
    (off bytes : Nat) : (blockJob k true off bytes).stop ≠ .spin :=
  blockJob_linux_no_spin k src.length hs hl off bytes

/-- `--no-progress` selects `usize::MAX`: any block size ≥ the range gives a single block (or none for an
empty file) -/
theorem blocks_single (start len b : Nat) (h : len ≤ b) (hl : 0 < len) : blocks start len b = [(start, len)] := by
  unfold blocks
  rw [nblocks_single len b h hl]
  simp [List.range_succ, Nat.min_eq_left h]

theorem blocks_empty (start b : Nat) (hb : 0 < b) : blocks start 0 b = [] := by
  have _ := hb
  simp [blocks, nblocks]

/-- The partition is exact: the blocks of a range cover it and nothing else, and stay inside it. -/
theorem blocks_partition (start len b : Nat) (hb : 0 < b) :
    (∀ i, covered (blocks start len b) i ↔ start ≤ i ∧ i < start + len) ∧
    (∀ j ∈ blocks start len b, j.1 + j.2 ≤ start + len) :=
  ⟨blocks_cover start len b hb, blocks_in_bounds start len b hb⟩

/-- Why the retry loop is needed (the defect repaired by the `fix:` commit on `copy_file_offset`): with ONE
`copy_file_range` call per block, a legal short count leaves the tail of the block as zeros. -/
theorem one_call_per_block_loses_data :
    ∃ (src : Bytes) (got : Nat), 1 ≤ got ∧ got ≤ 2 ∧
      runJobs src (createAllocate none src.length) [(0, got)] ≠ src :=
  ⟨[7, 9], 1, by decide, by decide, by decide⟩

/-- Non-vacuity: a concrete kernel that is safe and live and moves one byte per call; the block job on a
5-byte file succeeds after five calls. -/
example : (blockJob (fun _ _ off req => .moved (min 1 (min req (5 - off)))) true 0 5).stop = .ok 5 := by decide

end Xcp.C01
