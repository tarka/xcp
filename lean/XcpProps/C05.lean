import XcpProofs.Loops
import XcpProofs.Blocks
import XcpProofs.Merge
import XcpProofs.Compose
/-! # C05 — correct under short I/O counts and absent kernel copy/clone/extent support

"It never exits 0 with missing, duplicated or misplaced bytes": every theorem below has the form
*if the loop reports success then the destination is the source*, for EVERY kernel oracle that is merely
`KernSafe` (answers never exceed the request or the end of file).  Such an oracle may return any short count
at any call, answer `copy_file_range` with ENOSYS/EXDEV/EPERM at any call (⇒ user-space loops, also in the
middle of a block), answer `read` with EINTR, or fail outright (then the loop fails: exit non-zero, which
the statement allows).  `linux = false` is the build without the Linux backend (`fallback.rs`).  -/
namespace Xcp.C05

open Xcp

/-- exactly three errnos of `copy_file_range` mean "fall back to user space"; every other error is fatal -/
theorem cfr_classification (e : Errno) :
    classifyCfr (.err e) = (if e = .ENOSYS ∨ e = .EPERM ∨ e = .EXDEV then .fallback else .fatal e) := by
  cases e <;> rfl

/-- exactly four errnos of FICLONE mean "unsupported" (auto falls back to a data copy); others are errors -/
theorem clone_classification (e : Errno) :
    classifyClone (.err e) =
      (if e = .EOPNOTSUPP ∨ e = .EINVAL ∨ e = .EXDEV ∨ e = .ETXTBSY then .ok false else .error e) := by
  cases e <;> rfl

/-- FIEMAP unsupported (`map_extents` = `None`): parblock queues the whole file -/
theorem fiemap_unsupported_whole_file (len b : Nat) (sparse : Bool) :
    parblockJobs len b sparse none = blocks 0 len b :=
  parblockJobs_whole (parblockRanges_none len sparse) b

/-- A file that is not sparse is queued as one range whatever the extent query answers (or fails to answer):
the facility's presence or absence cannot change which bytes are copied. -/
theorem nonsparse_ignores_extent_answer (len b : Nat) (exts : Option (List Extent)) :
    parblockJobs len b false exts = blocks 0 len b :=
  parblockJobs_whole rfl b

/-- one block, Linux backend, any legal mixture of short counts and a mid-block switch to user space -/
theorem block_short_counts_exact (src : Bytes) (k : Kern) (hs : KernSafe k src.length) (hl : KernLive k src.length)
    (off bytes n : Nat) (ho : off ≤ src.length) (h : (blockJob k true off bytes).stop = .ok n) :
    ∀ i, covered (jobsOf (blockJob k true off bytes).evs) i ↔ off ≤ i ∧ i < min (off + bytes) src.length :=
  (blockJob_linux_ok k src.length hs hl off bytes n ho h).2

/-- one block, build without the Linux backend (`pread`/`pwrite` loop): success means the whole block was
moved — a block reaching past end of file fails instead ("Source file ended prematurely") -/
theorem block_fallback_exact (src : Bytes) (k : Kern) (hs : KernSafe k src.length)
    (off bytes n : Nat) (h : (blockJob k false off bytes).stop = .ok n) :
    n = bytes ∧ off + bytes ≤ src.length ∨ bytes = 0 ∧ n = 0 := by
  obtain ⟨h1, h2, _⟩ := blockJob_fallback_ok k src.length hs off bytes n h
  by_cases hb : 0 < bytes
  · exact Or.inl ⟨h1, h2 hb⟩
  · exact Or.inr ⟨by omega, by omega⟩

theorem block_fallback_cover (src : Bytes) (k : Kern) (hs : KernSafe k src.length)
    (off bytes n : Nat) (h : (blockJob k false off bytes).stop = .ok n) :
    ∀ i, covered (jobsOf (blockJob k false off bytes).evs) i ↔ off ≤ i ∧ i < off + bytes :=
  (blockJob_fallback_ok k src.length hs off bytes n h).2.2

/-- whole file through parfile's loop on either backend, any block size (even 0 would merely spin, never
corrupt): success ⇒ destination = source -/
theorem file_short_counts_exact (src : Bytes) (k : Kern) (hs : KernSafe k src.length) (linux : Bool) (b fuel a r : Nat)
    (h : (copyBytes k linux b fuel a 0 src.length 0).stop = .ok r) :
    r = src.length ∧
    runJobs src (List.replicate src.length 0) (jobsOf (copyBytes k linux b fuel a 0 src.length 0).evs) = src :=
  copyBytes_exact src k hs linux b fuel a r h

/-- a short `pwrite` in the user-space range copy is reported as a failure, never as success -/
theorem short_pwrite_fails (k : Kern) (a off nbytes rlen w : Nat) (hr : 0 < rlen) (hw : w < rlen)
    (h1 : k a .pread off (min nbytes nbytes) = .moved rlen) (h2 : k (a+1) .pwrite off rlen = .moved w) (hn : 0 < nbytes) :
    (rangeUspace k (nbytes + 1) a off nbytes 0).stop = .fail .shortWrite := by
  obtain ⟨r, rfl⟩ : ∃ r, rlen = r + 1 := ⟨rlen - 1, by omega⟩
  simp only [Nat.min_self] at h1
  unfold rangeUspace
  simp [hn, h1, h2, hw]

/-- an `EINTR` on `read` is retried and does not lose or duplicate bytes: covered by `file_short_counts_exact`
(the oracle is arbitrary); this instance shows the retry concretely -/
example : (bytesUspace (fun a _ _ req => if a = 0 then .err .EINTR else .moved req) 5 0 0 3 0).stop = .ok 3 := by decide

end Xcp.C05
