import XcpModel.Walker
import XcpProofs.DerefTree
import XcpProofs.DerefOverlay
import XcpProofs.MultiDeref
import XcpProofs.DerefClash
import XcpProofs.MultiDerefRun
import XcpProofs.EndToEndMore
import XcpProofs.WalkerLemmas
/-! # C13 — `--dereference` copies what links point to, or fails; never leaves links or gaps

Model slice: `walkEntry` with `dereference = true` (walkdir follows links after the `fix:` commit, the walker
canonicalizes each entry and `lstat`s the canonical path) and `execOps`.

Per operation: a canonical path never designates a link (`canonical_is_not_a_link`), so the walk emits no link
operation (`deref_emits_no_link_op`) and executing its operations creates no link anywhere
(`no_link_ops_create_no_links`); a dangling or self-referring link makes the walk emit the failure marker
(`dangling_link_fails`, `cyclic_link_does_not_resolve`), and the failure marker makes the run exit non-zero.

Tree level, in terms of the source seen through its links (`derefS`: every link replaced by what it resolves to,
directories reached through links descended into): to a fresh target the run succeeds and leaves exactly that tree
(`destination_is_the_tree_seen_through_the_links`, `every_link_is_replaced_by_its_target`); when that tree does not
exist the run fails (`no_tree_through_the_links_means_failure`); onto an absent or plain destination exit 0 implies
the overlay with that tree (`exit_zero_implies_overlaid_with_the_dereferenced_tree`).  The same under every
interleaving of the walker with the workers (`every_interleaving_leaves_the_dereferenced_tree`), for several sources
into one directory (`several_sources_each_dereferenced`, `…_on_every_interleaving`, `…_as_the_program_runs_them`),
and for the whole program model with validation (`whole_invocation_with_dereference`).  -/
namespace Xcp.C13

open Xcp

/-- a fully resolved path never designates a symbolic link.

The two hypotheses on `fs` exclude degenerate values of the `Fs` structure that no real file system has and
for which the statement is false: `Fs.root` may be any `Node` and `Fs.cwd` any list of names.
* root a link: `fs = ⟨.link t, []⟩`, `p = ⟨true, [], false⟩` gives `canonicalize p = .ok p` and
  `lstat p = some ([], .link t)`.
* working directory designating a link: `fs = ⟨.dir [(l, .link t)], [l]⟩`, `p = ⟨false, [.cur], false⟩` gives
  `canonicalize p = .ok ⟨true, [.name l], false⟩`, whose `lstat` is the link `l`.  (Likewise a working directory
  *below* a link, `[l, x]`, with `p = ..`.)
With the root not a link and the working directory the root or an existing directory the statement holds for
every tree. -/
theorem canonical_is_not_a_link (fs : Fs) (hroot : fs.root.isLink = false)
    (hcwd : fs.cwd = [] ∨ ∃ es, fs.root.getAt fs.cwd = some (.dir es))
    (p q : RPath) (h : fs.canonicalize p = .ok q) (c : List Name) (n : Node)
    (hl : fs.lstat q = some (c, n)) : n.isLink = false :=
  lstat_canonical_nonlink fs hroot hcwd p q h c n hl

def isLinkOp : Op → Bool | .link _ _ => true | _ => false

/-- with dereference the walk emits no link operation, for any tree, any links, chains of any length
(same hypotheses on `fs` as `canonical_is_not_a_link`, on which it rests) -/
theorem deref_emits_no_link_op (fs : Fs) (hroot : fs.root.isLink = false)
    (hcwd : fs.cwd = [] ∨ ∃ es, fs.root.getAt fs.cwd = some (.dir es))
    (c : Cfg) (hd : c.dereference = true) (gi : Ignore) (src tb : RPath) :
    ∀ (fuel : Nat) (rel : List Name) (anc : List (List Name)), ∀ op ∈ walkEntry fs c gi src tb fuel rel anc, isLinkOp op = false := by
  intro fuel rel anc op h
  have := walkEntry_deref_no_link fs hroot hcwd c hd gi src tb fuel rel anc op h
  cases op with
  | link t tg => exact absurd rfl (this t tg)
  | _ => rfl

/-- number of symbolic links in a tree -/
def countLinks : Node → Nat
  | .link _ => 1
  | .dir es => countLinksL es
  | _ => 0
where countLinksL : List (Name × Node) → Nat
  | [] => 0
  | (_, n) :: r => countLinks n + countLinksL r

mutual
/-- `countLinks` is the `linkCount` the lemmas of `XcpProofs.WalkerLemmas` speak about -/
theorem countLinks_eq : (n : Node) → countLinks n = linkCount n
  | .link _ => by simp [countLinks, linkCount]
  | .dir es => by simp [countLinks, linkCount, countLinksL_eq es]
  | .file _ => by simp [countLinks, linkCount]
  | .special _ _ => by simp [countLinks, linkCount]
theorem countLinksL_eq : (es : List (Name × Node)) → countLinks.countLinksL es = linkCountL es
  | [] => by simp [countLinks.countLinksL, linkCountL]
  | (_, n) :: r => by simp [countLinks.countLinksL, linkCountL, countLinks_eq n, countLinksL_eq r]
end

/-- executing operations none of which is a link operation creates no symbolic link anywhere -/
theorem no_link_ops_create_no_links (fs : Fs) (c : Cfg) (ops : List Op) (h : ∀ op ∈ ops, isLinkOp op = false) :
    countLinks (execOps fs c ops).fs.root ≤ countLinks fs.root := by
  rw [countLinks_eq, countLinks_eq]
  refine execOps_links c ops fs ?_
  intro op hop t tg he
  have := h op hop
  rw [he] at this
  cases this

/-- a dangling link makes the walk fail (and a failed walk makes the run exit non-zero) -/
theorem dangling_link_fails (fs : Fs) (c : Cfg) (hd : c.dereference = true) (gi : Ignore) (src tb : RPath)
    (fuel : Nat) (rel : List Name) (anc : List (List Name)) (cp : List Name) (t : RPath)
    (hl : fs.lstat (relJoin src rel) = some (cp, .link t)) (hs : fs.stat (relJoin src rel) = none) :
    walkEntry fs c gi src tb (fuel + 1) rel anc = [.fail] := by
  simp [walkEntry, hl, hs, hd, Node.isLink]

theorem fail_op_exits_nonzero (fs : Fs) (c : Cfg) (pre post : List Op) (h : ∀ op ∈ pre, (execOp fs c op).isSome → True) :
    (execOps fs c (.fail :: post)).exit = .err := by
  have _ := h
  simp [execOps, execOp]

/-- a link to itself (`l -> l`) never resolves: it is reported like a dangling one.  Evaluated here on one tree;
`walkPath_self_link` is the fact for every tree and every fuel. -/
theorem cyclic_link_does_not_resolve :
    let root : Node := .dir [([83], .dir [([108], .link ⟨false, [.name [108]], false⟩)])]
    (Fs.stat ⟨root, []⟩ ⟨true, [.name [83], .name [108]], false⟩) = none := by
  intro root
  refine stat_none_of_walk_err _ _ .ELOOP rfl ?_
  show walkPath root true (255 + 1) [] [.name [83], .name [108]] = _
  rw [walkPath_name_dir (root := root) (cur := []) (n := [83]) true 255 _ rfl]
  exact walkPath_self_link root true [[83]] [108] [] rfl (.inr rfl) 255


/-- Tree level: with `--dereference`, copying whatever the source designates — through any symbolic links at, above or
below it: links to files and to directories, nested, chains, relative or absolute, inside or outside the source — to a fresh
target runs every operation successfully and leaves at the target exactly the tree SEEN THROUGH the links
(`derefS`: every link replaced by what it resolves to, directories reached through links descended into), provided that
tree exists (`derefS … = some s`: no dangling link, no loop, supported kinds) -/
theorem destination_is_the_tree_seen_through_the_links (fs : Fs) (c : Cfg) (hd : c.dereference = true) (hn : c.noClobber = false)
    (src tb : RPath) (s : SNode) (fuel : Nat)
    (hwf : FsEq fs fs)
    (hsrc : AbsNames src)
    (hder : derefS fs (fuel + 1) src.names [] = some s)
    (htb : PlainTarget fs tb) (hne : tb.names ≠ []) (habs : fs.root.getAt tb.names = none)
    (hpar : ∃ es, fs.root.getAt tb.names.dropLast = some (.dir es))
    (hlen : tb.names.length + fuel < 255) :
    ∃ fs', execOps fs c (walkEntry fs c none src tb (fuel + 1) [] []) = ⟨.ok, fs'⟩ ∧
      FsEq fs' { fs with root := fs.root.setAt tb.names s.erase } ∧
      ∀ q x, fs'.root.getAt (tb.names ++ q) = some x → x.isLink = false := by
  obtain ⟨fs', hex, heq⟩ := mirror_fresh_deref ⟨hwf, hsrc, hder, htb, hne, hpar, hlen⟩ c hd hn habs
  exact ⟨fs', hex, heq, no_link_in_destination heq.2.2.2 hpar⟩

/-- … each link REPLACED by what it points to: the tree left at the target is related to the source node by `Derefs`
(files and special nodes unchanged, directories entry by entry, a link by the dereferenced node its `stat` finds) -/
theorem every_link_is_replaced_by_its_target (fs : Fs) (c : Cfg) (hd : c.dereference = true) (hn : c.noClobber = false)
    (src tb : RPath) (s : SNode) (fuel : Nat) (loc : List Name) (srcNode : Node)
    (hwf : FsEq fs fs)
    (hsrc : AbsNames src) (hsl : fs.lstat src = some (loc, srcNode))
    (hder : derefS fs (fuel + 1) src.names [] = some s)
    (htb : PlainTarget fs tb) (hne : tb.names ≠ []) (habs : fs.root.getAt tb.names = none)
    (hpar : ∃ es, fs.root.getAt tb.names.dropLast = some (.dir es))
    (hlen : tb.names.length + fuel < 255) :
    ∃ fs' m, execOps fs c (walkEntry fs c none src tb (fuel + 1) [] []) = ⟨.ok, fs'⟩ ∧
      Derefs fs loc srcNode m ∧
      FsEq fs' { fs with root := fs.root.setAt tb.names m } ∧
      ∀ q x, fs'.root.getAt (tb.names ++ q) = some x → x.isLink = false :=
  mirror_fresh_deref_replaced ⟨hwf, hsrc, hder, htb, hne, hpar, hlen⟩ c hd hn loc srcNode hsl habs

/-- … or the run FAILS: when the tree seen through the links does not exist (a dangling link, a loop, a chain beyond the
resolution limit, an unsupported kind), the run exits non-zero — never a gap, never a link left -/
theorem no_tree_through_the_links_means_failure (fs : Fs) (c : Cfg) (hd : c.dereference = true) (hn : c.noClobber = false)
    (hroot : fs.root.isLink = false) (hsk : SpecialKindsOk fs.root) (src tb : RPath)
    (hsrc : AbsNames src) (htb : AbsNames tb) (fuel : Nat)
    (h : derefS fs fuel src.names [] = none) :
    (execOps fs c (walkEntry fs c none src tb fuel [] [])).exit = .err := by
  rw [absNames_eq hsrc, absNames_eq htb]
  exact run_fails_of_no_tree fs c hd hroot hsk src.names tb.names (.inl hn) fuel h

/-- … under EVERY interleaving of the walker with the workers (any worker count, either driver): in terms of the source
node, with every link leading to something copyable (`derefNode … = some m`), no operation can be made to fail and every
complete run of the concurrent model leaves `m` — the source with each link replaced by what it leads to — at the target -/
theorem every_interleaving_leaves_the_dereferenced_tree (fs : Fs) (c : Cfg) (hd : c.dereference = true) (hn : c.noClobber = false)
    (src tb : RPath) (srcNode m : Node) (fuel : Nat)
    (hwf : FsEq fs fs)
    (hsrc : AbsNames src) (hsn : fs.root.getAt src.names = some srcNode)
    (hcop : srcNode.Copyable fuel)
    (hder : derefNode fs srcNode src.names = some m)
    (htb : PlainTarget fs tb) (hne : tb.names ≠ []) (habs : fs.root.getAt tb.names = none)
    (hpar : ∃ es, fs.root.getAt tb.names.dropLast = some (.dir es))
    (hlen : src.names.length + fuel < 255 ∧ tb.names.length + fuel < 255)
    (ls : List L0.Label) (st : L0.St)
    (hrun : L0.run c (L0.init fs (walkEntry fs c none src tb (fuel + 1) [] [])) ls = some st) :
    st.failed = false ∧
    (L0.final st = true → FsEq st.fs { fs with root := fs.root.setAt tb.names m }) := by
  obtain ⟨s, hs, hse⟩ := derefS_of_derefNode fs fuel srcNode m src.names [] hsn hcop hder (by omega)
  have h := deref_fresh_concurrent_of_overlay fs c hd hn src tb s fuel hwf hsrc hs htb hne habs hpar hlen.2 ls st hrun
  rw [hse] at h
  exact h

/-- Several sources with `-L` into an existing directory (`xcp -rL s1 … sn DEST/`): each source's tree seen through the
links (`e.s`) compatible with what its target holds, no source reading from any target region (`ReadsAway`), distinct base
names: every operation of the concatenated walk succeeds and every target is overlaid with the dereferenced tree, in argv
order (the operation lists are computed in the initial state; for the form that re-walks later sources in the changed
state see `several_sources_each_dereferenced_as_the_program_runs_them`) -/
theorem several_sources_each_dereferenced (fs : Fs) (c : Cfg) (dest : RPath) (items : List DerefSrc)
    (hd : c.dereference = true) (hn : c.noClobber = false)
    (hwf : FsEq fs fs)
    (hdd : ∃ es, fs.root.getAt dest.names = some (.dir es))
    (hsrc : ∀ e ∈ items, AbsNames e.path ∧ e.path.fileName = some e.base ∧
      derefS fs walkFuel e.path.names [] = some e.s)
    (hnd : (items.map (·.base)).Nodup)
    (haway : ∀ e ∈ items, ∀ e' ∈ items, ReadsAway e.s (dest.names ++ [e'.base]))
    (hcomp : ∀ e ∈ items, Compatible (fs.root.getAt (dest.names ++ [e.base])) e.s.erase)
    (hlen : dest.names.length + 1 + walkFuel < 256) :
    ∃ fs', execOps fs c (multiOpsD fs c dest items) = ⟨.ok, fs'⟩ ∧
      FsEq fs' { fs with root := overlayAllD fs.root dest.names items fs.root } :=
  multi_deref_sequential fs c dest items ⟨hwf, hdd, hsrc, hnd, haway, hlen⟩ hd hn hcomp

/-- … and under EVERY interleaving of the walker with the workers -/
theorem several_sources_each_dereferenced_on_every_interleaving (fs : Fs) (c : Cfg) (dest : RPath) (items : List DerefSrc)
    (hd : c.dereference = true) (hn : c.noClobber = false)
    (hwf : FsEq fs fs)
    (hdd : ∃ es, fs.root.getAt dest.names = some (.dir es))
    (hsrc : ∀ e ∈ items, AbsNames e.path ∧ e.path.fileName = some e.base ∧
      derefS fs walkFuel e.path.names [] = some e.s)
    (hnd : (items.map (·.base)).Nodup)
    (haway : ∀ e ∈ items, ∀ e' ∈ items, ReadsAway e.s (dest.names ++ [e'.base]))
    (hcomp : ∀ e ∈ items, Compatible (fs.root.getAt (dest.names ++ [e.base])) e.s.erase)
    (hlen : dest.names.length + 1 + walkFuel < 256)
    (ls : List L0.Label) (st : L0.St)
    (hrun : L0.run c (L0.init fs (multiOpsD fs c dest items)) ls = some st) :
    st.failed = false ∧ (L0.final st = true →
      FsEq st.fs { fs with root := overlayAllD fs.root dest.names items fs.root }) :=
  multi_deref_concurrent_ok fs c dest items ⟨hwf, hdd, hsrc, hnd, haway, hlen⟩ hd hn hcomp ls st hrun

/-- "exit 0 ⇒ the destination is overlaid with the tree seen through the links", no compatibility assumed, for every absent or
plain destination that no operation reads from (`ReadsAway`): a clash makes the run fail, sequentially and on every interleaving
(`Xcp.deref_clash_fails`) — never a link left, never a gap, never a silent merge -/
theorem exit_zero_implies_overlaid_with_the_dereferenced_tree (fs : Fs) (c : Cfg) (hd : c.dereference = true) (hn : c.noClobber = false)
    (src tb : RPath) (s : SNode) (fuel : Nat)
    (hwf : FsEq fs fs)
    (hsrc : AbsNames src)
    (hder : derefS fs (fuel + 1) src.names [] = some s)
    (htb : PlainTarget fs tb) (hne : tb.names ≠ [])
    (hplain : ∀ d, fs.root.getAt tb.names = some d → d.plainTree = true)
    (hpar : ∃ es, fs.root.getAt tb.names.dropLast = some (.dir es))
    (hout : ReadsAway s tb.names)
    (hlen : tb.names.length + fuel < 255)
    (fs' : Fs) (hok : execOps fs c (walkEntry fs c none src tb (fuel + 1) [] []) = ⟨.ok, fs'⟩) :
    FsEq fs' { fs with root := fs.root.setAt tb.names (Node.overlay (fs.root.getAt tb.names) s.erase) } := by
  refine ok_implies_of_cases (C := Compatible (fs.root.getAt tb.names) s.erase)
    (fun hcompat => overlay_deref ⟨hwf, hsrc, hder, htb, hne, hpar, hlen⟩ c hd hn hcompat hout)
    (fun hclash => ?_) hok
  obtain ⟨dstNode, hdst⟩ := exists_of_not_compatible hclash
  rw [hdst] at hclash
  exact (deref_clash_fails ⟨hwf, hsrc, hder, htb, hne, hpar, hlen⟩ c hd hn hdst
    (plainWhereMapped_of_plainTree dstNode s.erase (hplain dstNode hdst)) hclash).1

/-- Several sources with `-L`, as the program really runs them: each later source is re-walked in the state the earlier ones
left (`runSources`).  `derefAway` (a computable condition on the INITIAL file system: no place the dereferencing walk of a source
looks at — path components, every component of every link text it expands — is at or below a target, and the places it arrives
at are unrelated to every target) makes the re-walk see the same tree (`Xcp.derefS_congr`), and every target is overlaid with
its source's dereferenced tree.  The condition is needed: with `/B/k → /T` the run `xcp -rL /S /B /T` copies the already-copied
`/T/S` again below `/T/B/k` (evaluated in `XcpProofs/MultiDerefRun.lean`; the real program does the same, as cp does) -/
theorem several_sources_each_dereferenced_as_the_program_runs_them (fs : Fs) (c : Cfg) (texts : GiTexts) (dest : RPath) (items : List DerefSrc)
    (hd : c.dereference = true) (hn : c.noClobber = false) (hg : c.gitignore = false)
    (hnt : c.noTargetDir = false)
    (hwf : FsEq fs fs)
    (hdest : PlainTarget fs dest) (hdd : ∃ es, fs.root.getAt dest.names = some (.dir es))
    (hsrc : ∀ e ∈ items, AbsNames e.path ∧ e.path.fileName = some e.base ∧
      derefS fs walkFuel e.path.names [] = some e.s)
    (haw : ∀ e ∈ items, derefAway fs (targetsOf dest.names items) walkFuel e.path.names [] = true)
    (hnd : (items.map (·.base)).Nodup)
    (haway : ∀ e ∈ items, ∀ e' ∈ items, ReadsAway e.s (dest.names ++ [e'.base]))
    (hcomp : ∀ e ∈ items, Compatible (fs.root.getAt (dest.names ++ [e.base])) e.s.erase)
    (hlen : dest.names.length + 1 + walkFuel < 256) :
    ∃ fs', runSources fs c texts dest (items.map (·.path)) = ⟨.ok, fs'⟩ ∧
      FsEq fs' { fs with root := overlayAllD fs.root dest.names items fs.root } :=
  multi_deref_run_of_away fs c texts dest items ⟨hwf, hdd, hsrc, hnd, haway, hlen⟩ hd hn hg hnt hdest haw hcomp

/-- … and for the whole program model: validation ACCEPTS such an invocation (the checks on what the spelled paths resolve to
follow from the hypotheses; only `hspell` — no source is spelled like the destination or its target — is about the spelling)
and `L1run` leaves every target overlaid with its source's dereferenced tree -/
theorem whole_invocation_with_dereference (fs : Fs) (o : Opts) (texts : GiTexts) (dest : RPath) (items : List DerefSrc)
    (hd : o.cfg.dereference = true) (hn : o.cfg.noClobber = false) (hg : o.cfg.gitignore = false)
    (hnt : o.cfg.noTargetDir = false) (hrec : o.cfg.recursive = true) (hglob : o.glob = false)
    (hpaths : (o.targetDir = none ∧ o.paths = items.map (·.path) ++ [dest]) ∨
      (o.targetDir = some dest ∧ o.paths = items.map (·.path)))
    (hne : items ≠ [])
    (hwf : FsEq fs fs)
    (hdest : PlainTarget fs dest) (hdd : ∃ es, fs.root.getAt dest.names = some (.dir es))
    (hsrc : ∀ e ∈ items, AbsNames e.path ∧ e.path.fileName = some e.base ∧
      derefS fs walkFuel e.path.names [] = some e.s)
    (hspell : ∀ e ∈ items, e.path.names ≠ dest.names ∧ e.path.names ≠ dest.names ++ [e.base])
    (haw : ∀ e ∈ items, derefAway fs (targetsOf dest.names items) walkFuel e.path.names [] = true)
    (hnd : (items.map (·.base)).Nodup)
    (haway : ∀ e ∈ items, ∀ e' ∈ items, ReadsAway e.s (dest.names ++ [e'.base]))
    (hcomp : ∀ e ∈ items, Compatible (fs.root.getAt (dest.names ++ [e.base])) e.s.erase)
    (hlen : dest.names.length + 1 + walkFuel < 256) :
    validate fs o = .ok (items.map (·.path), dest) ∧
    ∃ fs', L1run fs o texts = ⟨.ok, fs'⟩ ∧
      FsEq fs' { fs with root := overlayAllD fs.root dest.names items fs.root } := by
  have hw : walkFuel = 63 + 1 := rfl
  have hde := plainTarget_eq fs dest hdest
  obtain ⟨es, hes⟩ := hdd
  have hdl : dest.names.length + 1 < 256 := by rw [hw] at hlen; omega
  have hv : validate fs o = .ok (items.map (·.path), dest) := by
    apply validate_ok fs o dest _ hn hglob hpaths (fun h => hne (List.map_eq_nil_iff.1 h))
    · left
      rw [hde, isDir_plain fs dest.names _ (by omega) hes rfl]
      rfl
    · apply (checkSources_ok_iff fs o dest _).2
      intro s hs
      obtain ⟨e, he, rfl⟩ := List.mem_map.1 hs
      obtain ⟨hp, hfn, hder⟩ := hsrc e he
      have hpe := absNames_eq hp
      have ha := haw e he
      rw [hw] at hder ha
      obtain ⟨lcp, lnode, cp, node, hl, hst, hcase⟩ := derefS_succ_some hder
      have hcpT := (unrelB_spec (derefAway_succ_cp hl hst ha)) (dest.names ++ [e.base])
        (List.mem_map.2 ⟨e, he, rfl⟩)
      rw [hde, hpe]
      apply checkSource_into_dir_deref fs o hrec hnt dest.names e.path.names cp e.base node es hes hst
        (by rw [← hpe]; exact hfn) (hspell e he).1 (hspell e he).2 (fun h => hcpT.1 (h ▸ List.prefix_refl _)) _ hdl
      -- a directory seen through the links meets a directory
      intro x hx
      have hc := hcomp e he
      rw [hx] at hc
      obtain ⟨hxl, hxd⟩ := compatible_some hc
      refine ⟨hxl, fun hnd' => hxd ?_⟩
      rcases hcase with ⟨k, hnode, _⟩ | ⟨k, d, hnode, _, _⟩ | ⟨es', ss, _, _, _, hs'⟩
      · rw [hnode] at hnd'; cases hnd'
      · rw [hnode] at hnd'; cases hnd'
      · rw [hs']; rfl
  refine ⟨hv, ?_⟩
  simp only [L1run, hv]
  exact multi_deref_run_of_away fs o.cfg texts dest items ⟨hwf, ⟨es, hes⟩, hsrc, hnd, haway, hlen⟩ hd hn hg hnt hdest
    haw hcomp

end Xcp.C13
