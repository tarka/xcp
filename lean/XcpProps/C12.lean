import XcpModel.Status
import XcpProofs.StatusInv
/-! # C12 — progress updates are truthful, never exceed 100 %, and the stream ends

Model slice: `Xcp.Status` (who appends what to the update stream, in every interleaving, with failures) and
`channelSend`/`channelRun` (the batching of `ChannelUpdater`).  Appends are atomic (crossbeam's channel is
linearizable: trusted).  That the stream ENDS is termination (C07: every schedule is finite and reaches a
final state in which no thread holds an updater clone).  -/
namespace Xcp.C12

open Xcp Xcp.Status

/-- conservation: announced = reported + still queued + still to move, as long as nothing failed;
with failures it is an inequality (abandoned bytes are never reported) -/
theorem accounting (files : List Nat) (s : St) (h : Reachable files s) :
    sumCopied s.log + s.queue.sum + s.active.sum ≤ sumSize s.log ∧
    (s.failed = false → sumCopied s.log + s.queue.sum + s.active.sum = sumSize s.log) ∧
    sumSize s.log + s.todo.sum ≤ files.sum ∧ (s.failed = false → sumSize s.log + s.todo.sum = files.sum) := by
  obtain ⟨la, lt, h1, h2, h3⟩ := (inv_reachable h).acc
  exact ⟨by omega, fun hf => by have := h3 hf; omega, by omega, fun hf => by have := h3 hf; omega⟩

/-- at no point has more been reported copied than has been announced — for every reachable state, hence for
every prefix of every stream, under every interleaving of walker and workers, with or without failures -/
theorem never_more_than_announced (files : List Nat) (s : St) (h : Reachable files s) :
    sumCopied s.log ≤ sumSize s.log := by
  obtain ⟨la, lt, h1, _⟩ := (inv_reachable h).acc
  omega

/-- nor more than was actually transferred -/
theorem never_more_than_transferred (files : List Nat) (s : St) (h : Reachable files s) :
    sumCopied s.log = s.moved :=
  (inv_reachable h).moved_eq

/-- every prefix of a reachable stream is itself fine (the executable monitor used on real streams) -/
theorem monitor_sound (files : List Nat) (s : St) (h : Reachable files s) : prefixOk s.log = true :=
  (prefixOk_iff _).mpr (inv_reachable h).fine

/-- a run that ends without failure announced exactly the total length of the regular files and reported
all of it -/
theorem complete_run_totals (files : List Nat) (s : St) (h : Reachable files s) (hf : final s = true)
    (hok : s.failed = false) : sumSize s.log = files.sum ∧ sumCopied s.log = files.sum := by
  have inv := inv_reachable h
  simp only [final, Bool.and_eq_true, List.isEmpty_iff] at hf
  obtain ⟨⟨hw, hq⟩, ha⟩ := hf
  obtain ⟨la, lt, h1, h2, h3⟩ := inv.acc
  have h4 := h3 hok
  simp only [hq, ha, inv.done hw, List.sum_nil] at h1 h2
  omega

/-- whenever the stream ends with less reported than the files' total, an error update is in it -/
theorem incomplete_implies_error (files : List Nat) (s : St) (h : Reachable files s) (hf : final s = true)
    (hi : sumCopied s.log < files.sum) : hasError s.log = true := by
  cases hfl : s.failed with
  | true => exact (inv_reachable h).err hfl
  | false =>
    have := (complete_run_totals files s h hf hfl).2
    omega

/-- `ChannelUpdater` batching under-reports, never over-reports; sizes and errors pass through unchanged -/
theorem batching_under_reports (b : Nat) (sent : Nat) (us : List Update) :
    sumCopied (channelRun b sent us) ≤ sumCopied us ∧ sumSize (channelRun b sent us) = sumSize us ∧
    hasError (channelRun b sent us) = hasError us :=
  channelRun_sums b us sent

/-- … hence what the client of the provided updater sees still never exceeds what was announced, prefix by
prefix: dropping `Copied` updates from a fine stream keeps it fine -/
theorem batched_stream_fine (b : Nat) (us : List Update) (h : prefixOk us = true) :
    prefixOk (channelRun b 0 us) = true :=
  (prefixOk_iff _).mpr (channelRun_prefixFine b 0 ((prefixOk_iff _).mp h))

/-- every execution is finite: a step consumes one unit of `todo + 2·queue + active bytes + …` -/
def measure (s : St) : Nat :=
  (if s.walkerDone then 0 else 1) + (s.todo.map fun l => l + 3).sum + (s.queue.map fun l => l + 2).sum + (s.active.map fun r => r + 1).sum

theorem step_decreases (s s' : St) (l : Label) (h : step s l = some s') : measure s' < measure s := by
  cases l with
  | announce =>
    obtain ⟨hw, ⟨len, r, ht, rfl⟩ | ⟨ht, rfl⟩⟩ := step_announce h
    · simp +arith [measure, ht, List.sum_append]
    · simp [measure, hw]
  | walkerFail =>
    obtain ⟨hw, rfl⟩ := step_walkerFail h
    simp +arith [measure, hw]
  | take =>
    obtain ⟨len, q, hq, rfl⟩ := step_take h
    simp +arith [measure, hq, List.sum_append]
  | copy i k =>
    obtain ⟨rem, hr, hk0, hk, rfl⟩ := step_copy h
    exact add_lt_add_of_sum (sum_map_set (fun r : Nat => r + 1) (rem - k) rem s.active i hr)
      (Nat.succ_lt_succ (Nat.sub_lt (Nat.lt_of_lt_of_le hk0 hk) hk0))
  | finish i =>
    obtain ⟨hr, rfl⟩ := step_finish h
    exact add_lt_add_of_sum (k' := 0) (sum_map_eraseIdx (fun r : Nat => r + 1) 0 s.active i hr) (Nat.succ_pos 0)
  | fail i =>
    obtain ⟨rem, hr, rfl⟩ := step_fail h
    exact add_lt_add_of_sum (k' := 0) (sum_map_eraseIdx (fun r : Nat => r + 1) rem s.active i hr) (Nat.succ_pos rem)

/-- no deadlock: in every non-final state some label is enabled -/
theorem some_step_enabled (s : St) (h : final s = false) : ∃ l s', step s l = some s' := by
  cases hw : s.walkerDone with
  | false =>
    refine ⟨.announce, ?_⟩
    cases ht : s.todo <;> simp [step, ht, hw]
  | true =>
    cases hq : s.queue with
    | cons len q => exact ⟨.take, by simp [step, hq]⟩
    | nil =>
      cases ha : s.active with
      | nil => simp [final, hw, hq, ha] at h
      | cons r a =>
        cases r with
        | zero => exact ⟨.finish 0, by simp [step, ha]⟩
        | succ r => exact ⟨.copy 0 1, by simp [step, ha]⟩

/-- non-vacuity: two files, interleaved workers, everything reported -/
example : (run (init [3, 2]) [.announce, .take, .copy 0 2, .announce, .take, .copy 1 2, .copy 0 1, .finish 0, .finish 0, .announce]).map
    (fun s => (s.log, final s)) =
    some ([.size 3, .copied 2, .size 2, .copied 2, .copied 1], true) := by decide

end Xcp.C12
