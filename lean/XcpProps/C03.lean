import XcpProofs.FsDefs
import XcpProofs.FsFrame
import XcpProofs.TreeFrame
import XcpProofs.AnyRunFrame
import XcpProofs.EndToEndClash
import XcpProofs.ClashExample
/-! # C03 — sources and bystander files are never modified, even by self-copies or kills

Model slice: `validate` (identity-based same-file test per source), `execOp` (the same-file guard before
`File::create`) and the namespace model.  The frame theorem is stated for *plain* targets (absolute, no
symbolic link at or above the target): there the kernel resolves the target to the place it spells, and an
operation changes nothing that is neither at/below its target nor one of the target's ancestor directories.
It holds for every operation list, hence for every prefix of a run: a SIGKILL leaves exactly the effects of
the calls completed so far.  Hard links are not in the model (the real guard compares device and inode, which
covers them; exercised by the correspondence run).  Outside `PlainTarget` — a symbolic link at the target left
by an earlier copy — the model and the code write THROUGH the link (finding F13, reported by C02). -/
namespace Xcp.C03

open Xcp

/-- a copy whose destination designates the source itself — through any spelling or symbolic link — is refused
before anything is created or truncated -/
theorem self_copy_refused (fs : Fs) (c : Cfg) (s t : RPath) (he : fs.exists t = true) (hs : fs.sameFile s t = true) :
    execOp fs c (.copy s t) = none := by
  simp only [execOp, he, hs, Bool.and_self, if_true]
  cases fs.contentOf s <;> rfl

/-- and the invocation as a whole is rejected up front when a source is its own target -/
theorem self_copy_rejected_up_front (fs : Fs) (o : Opts) (dest s tb : RPath)
    (ht : targetBase fs o.cfg dest s = some tb) (he : fs.exists tb = true) (hs : fs.sameFile s tb = true) :
    ∃ r, checkSource fs o dest s = .error r :=
  checkSource_error_same fs o dest s tb ht (.inr (.inr ⟨he, hs⟩))

/-- a refused or failed operation is a no-op -/
theorem failed_op_changes_nothing (fs : Fs) (c : Cfg) (op : Op) (post : List Op) (h : execOp fs c op = none) :
    (execOps fs c (op :: post)).fs = fs := by
  simp [execOps, h]

/-- frame: an operation on a plain target changes only what is at or below the target, and the entry lists of
the target's ancestor directories -/
theorem plain_op_frame (fs fs' : Fs) (c : Cfg) (op : Op) (t : RPath) (ht : opTarget op = some t)
    (hp : PlainTarget fs t) (h : execOp fs c op = some fs') :
    ∀ q, ¬ (t.names <+: q) → ¬ (q <+: t.names) → fs'.root.getAt q = fs.root.getAt q := by
  rw [plainTarget_eq fs t hp] at ht
  exact (execOp_plain fs fs' c op t.names ht hp.2.2.2 h).1

/-- … and does not change the kind of an ancestor: it is still a directory, with its other entries intact -/
theorem plain_op_keeps_ancestors (fs fs' : Fs) (c : Cfg) (op : Op) (t : RPath) (ht : opTarget op = some t)
    (hp : PlainTarget fs t) (h : execOp fs c op = some fs') :
    ∀ q es, q <+: t.names → q ≠ t.names → fs.root.getAt q = some (.dir es) → ∃ es', fs'.root.getAt q = some (.dir es') := by
  rw [plainTarget_eq fs t hp] at ht
  exact (execOp_plain fs fs' c op t.names ht hp.2.2.2 h).2

/-- the working directory never changes -/
theorem cwd_unchanged (fs : Fs) (c : Cfg) (ops : List Op) : (execOps fs c ops).fs.cwd = fs.cwd := by
  induction ops generalizing fs with
  | nil => rfl
  | cons op r ih =>
    simp only [execOps]
    cases he : execOp fs c op with
    | none => rfl
    | some fs' => exact (ih fs').trans (execOp_cwd fs fs' c op he)

/-! ## Tree level: a whole invocation `xcp -r s1 … sn DEST` (hypotheses of `C02.whole_invocation_mirrors_its_sources`) -/

/-- Bystanders: after the whole run, every place that is not at or below a target `DEST/basename(si)` is observed exactly
as before — `DEST` itself and its ancestors (still directories), every other entry of `DEST` at every depth, and
everything outside `DEST` -/
theorem whole_run_leaves_bystanders_untouched (fs : Fs) (o : Opts) (texts : GiTexts) (dest : RPath) (items : List CopySrc) (fuel : Nat)
    (hd : o.cfg.dereference = false) (hn : o.cfg.noClobber = false) (hg : o.cfg.gitignore = false)
    (hnt : o.cfg.noTargetDir = false)
    (hrec : o.cfg.recursive = true) (hglob : o.glob = false)
    (hpaths : (o.targetDir = none ∧ o.paths = items.map (·.path) ++ [dest]) ∨
      (o.targetDir = some dest ∧ o.paths = items.map (·.path)))
    (hne : items ≠ [])
    (hwf : FsEq fs fs)
    (hdest : PlainTarget fs dest) (hdd : ∃ es, fs.root.getAt dest.names = some (.dir es))
    (hfuel : fuel < walkFuel)
    (hsrc : ∀ e ∈ items, PlainTarget fs e.path ∧ e.path.fileName = some e.base ∧
      fs.root.getAt e.path.names = some e.node ∧ e.node.Copyable fuel ∧ e.path.names.length + walkFuel < 256)
    (hnd : (items.map (·.base)).Nodup)
    (hun : ∀ e ∈ items, ∀ e' ∈ items,
      ¬ e.path.names <+: dest.names ++ [e'.base] ∧ ¬ dest.names ++ [e'.base] <+: e.path.names)
    (hcomp : ∀ e ∈ items, Compatible (fs.root.getAt (dest.names ++ [e.base])) e.node)
    (hlen : dest.names.length + 1 + walkFuel < 256)
    (fs' : Fs) (hrun : L1run fs o texts = ⟨.ok, fs'⟩)
    (q : List Name) (hq : ∀ e ∈ items, ¬ dest.names ++ [e.base] <+: q) :
    obsAt fs'.root q = obsAt fs.root q :=
  bystanders_untouched fs o texts dest items fuel ⟨hwf, hdd, hfuel, hsrc, hnd, hun, hlen⟩ hd hn hg hnt hrec hglob hpaths
    hne hdest hcomp fs' hrun q hq

/-- Sources: every source subtree is observed exactly as before, at every depth -/
theorem whole_run_leaves_sources_untouched (fs : Fs) (o : Opts) (texts : GiTexts) (dest : RPath) (items : List CopySrc) (fuel : Nat)
    (hd : o.cfg.dereference = false) (hn : o.cfg.noClobber = false) (hg : o.cfg.gitignore = false)
    (hnt : o.cfg.noTargetDir = false)
    (hrec : o.cfg.recursive = true) (hglob : o.glob = false)
    (hpaths : (o.targetDir = none ∧ o.paths = items.map (·.path) ++ [dest]) ∨
      (o.targetDir = some dest ∧ o.paths = items.map (·.path)))
    (hne : items ≠ [])
    (hwf : FsEq fs fs)
    (hdest : PlainTarget fs dest) (hdd : ∃ es, fs.root.getAt dest.names = some (.dir es))
    (hfuel : fuel < walkFuel)
    (hsrc : ∀ e ∈ items, PlainTarget fs e.path ∧ e.path.fileName = some e.base ∧
      fs.root.getAt e.path.names = some e.node ∧ e.node.Copyable fuel ∧ e.path.names.length + walkFuel < 256)
    (hnd : (items.map (·.base)).Nodup)
    (hun : ∀ e ∈ items, ∀ e' ∈ items,
      ¬ e.path.names <+: dest.names ++ [e'.base] ∧ ¬ dest.names ++ [e'.base] <+: e.path.names)
    (hcomp : ∀ e ∈ items, Compatible (fs.root.getAt (dest.names ++ [e.base])) e.node)
    (hlen : dest.names.length + 1 + walkFuel < 256)
    (fs' : Fs) (hrun : L1run fs o texts = ⟨.ok, fs'⟩)
    (e : CopySrc) (he : e ∈ items) (q : List Name) :
    obsAt fs'.root (e.path.names ++ q) = obsAt fs.root (e.path.names ++ q) := by
  apply whole_run_leaves_bystanders_untouched fs o texts dest items fuel hd hn hg hnt hrec hglob hpaths hne hwf hdest hdd
    hfuel hsrc hnd hun hcomp hlen fs' hrun
  intro e' he' hp
  exact not_both_prefix (hun e he e' he').1 (hun e he e' he').2 (List.prefix_append _ _) hp

/-- … and conversely a place that IS observed differently lies at or below one of the targets -/
theorem whole_run_changes_only_the_targets (fs : Fs) (o : Opts) (texts : GiTexts) (dest : RPath) (items : List CopySrc) (fuel : Nat)
    (hd : o.cfg.dereference = false) (hn : o.cfg.noClobber = false) (hg : o.cfg.gitignore = false)
    (hnt : o.cfg.noTargetDir = false)
    (hrec : o.cfg.recursive = true) (hglob : o.glob = false)
    (hpaths : (o.targetDir = none ∧ o.paths = items.map (·.path) ++ [dest]) ∨
      (o.targetDir = some dest ∧ o.paths = items.map (·.path)))
    (hne : items ≠ [])
    (hwf : FsEq fs fs)
    (hdest : PlainTarget fs dest) (hdd : ∃ es, fs.root.getAt dest.names = some (.dir es))
    (hfuel : fuel < walkFuel)
    (hsrc : ∀ e ∈ items, PlainTarget fs e.path ∧ e.path.fileName = some e.base ∧
      fs.root.getAt e.path.names = some e.node ∧ e.node.Copyable fuel ∧ e.path.names.length + walkFuel < 256)
    (hnd : (items.map (·.base)).Nodup)
    (hun : ∀ e ∈ items, ∀ e' ∈ items,
      ¬ e.path.names <+: dest.names ++ [e'.base] ∧ ¬ dest.names ++ [e'.base] <+: e.path.names)
    (hcomp : ∀ e ∈ items, Compatible (fs.root.getAt (dest.names ++ [e.base])) e.node)
    (hlen : dest.names.length + 1 + walkFuel < 256)
    (fs' : Fs) (hrun : L1run fs o texts = ⟨.ok, fs'⟩)
    (q : List Name) (hq : obsAt fs'.root q ≠ obsAt fs.root q) :
    ∃ e ∈ items, dest.names ++ [e.base] <+: q := by
  apply Classical.byContradiction
  intro hno
  apply hq
  apply whole_run_leaves_bystanders_untouched fs o texts dest items fuel hd hn hg hnt hrec hglob hpaths hne hwf hdest hdd
    hfuel hsrc hnd hun hcomp hlen fs' hrun
  intro e he hp
  exact hno ⟨e, he, hp⟩

/-- Whatever the run does — success, failure, a clash half-way, any interleaving, any worker count, either driver: for a
target that is absent or made of directories and regular files (no compatibility with the source assumed), in EVERY reachable
state of the concurrent model, failed or not, finished or not, every place that is not at or below the target is observed
exactly as in the initial state: the destination's parent and ancestors, its other entries, everything outside -/
theorem every_reachable_state_changes_only_the_target (fs : Fs) (c : Cfg) (hd : c.dereference = false) (hn : c.noClobber = false)
    (src tb : RPath) (srcNode : Node) (fuel : Nat)
    (hwf : FsEq fs fs) (hroot : fs.root.isDir = true)
    (hsrc : PlainTarget fs src) (hsn : fs.root.getAt src.names = some srcNode)
    (hcop : srcNode.Copyable fuel)
    (htb : PlainTarget fs tb) (hne : tb.names ≠ [])
    (hplain : ∀ d, fs.root.getAt tb.names = some d → d.plainTree = true)
    (hpar : ∃ es, fs.root.getAt tb.names.dropLast = some (.dir es))
    (hun1 : ¬ src.names <+: tb.names) (hun2 : ¬ tb.names <+: src.names)
    (hlen : src.names.length + fuel < 200 ∧ tb.names.length + fuel < 200)
    (ls : List L0.Label) (s : L0.St)
    (hrun : L0.run c (L0.init fs (walkEntry fs c none src tb (fuel + 1) [] [])) ls = some s)
    (q : List Name) (hq : ¬ tb.names <+: q) :
    obsAt s.fs.root q = obsAt fs.root q := by
  exact (single_frame (.of_hyps hwf hroot hsrc hsn hcop htb hne hpar hun1 hun2 hlen) c hd hn
    (fun d h => plainWhereMapped_of_plainTree d srcNode (hplain d h))).1 ls s hrun q hq

/-- … in particular the SOURCE, at every depth, in every reachable state -/
theorem every_reachable_state_keeps_the_source (fs : Fs) (c : Cfg) (hd : c.dereference = false) (hn : c.noClobber = false)
    (src tb : RPath) (srcNode : Node) (fuel : Nat)
    (hwf : FsEq fs fs) (hroot : fs.root.isDir = true)
    (hsrc : PlainTarget fs src) (hsn : fs.root.getAt src.names = some srcNode)
    (hcop : srcNode.Copyable fuel)
    (htb : PlainTarget fs tb) (hne : tb.names ≠ [])
    (hplain : ∀ d, fs.root.getAt tb.names = some d → d.plainTree = true)
    (hpar : ∃ es, fs.root.getAt tb.names.dropLast = some (.dir es))
    (hun1 : ¬ src.names <+: tb.names) (hun2 : ¬ tb.names <+: src.names)
    (hlen : src.names.length + fuel < 200 ∧ tb.names.length + fuel < 200)
    (ls : List L0.Label) (s : L0.St)
    (hrun : L0.run c (L0.init fs (walkEntry fs c none src tb (fuel + 1) [] [])) ls = some s)
    (rel : List Name) :
    obsAt s.fs.root (src.names ++ rel) = obsAt fs.root (src.names ++ rel) := by
  apply every_reachable_state_changes_only_the_target fs c hd hn src tb srcNode fuel hwf hroot hsrc hsn hcop htb hne hplain
    hpar hun1 hun2 hlen ls s hrun
  intro hp
  rcases List.prefix_or_prefix_of_prefix hp (List.prefix_append src.names rel) with h | h
  · exact hun2 h
  · exact hun1 h

/-- … and the sequential run, whatever its exit status -/
theorem sequential_run_of_any_exit_changes_only_the_target (fs : Fs) (c : Cfg) (hd : c.dereference = false) (hn : c.noClobber = false)
    (src tb : RPath) (srcNode : Node) (fuel : Nat)
    (hwf : FsEq fs fs) (hroot : fs.root.isDir = true)
    (hsrc : PlainTarget fs src) (hsn : fs.root.getAt src.names = some srcNode)
    (hcop : srcNode.Copyable fuel)
    (htb : PlainTarget fs tb) (hne : tb.names ≠ [])
    (hplain : ∀ d, fs.root.getAt tb.names = some d → d.plainTree = true)
    (hpar : ∃ es, fs.root.getAt tb.names.dropLast = some (.dir es))
    (hun1 : ¬ src.names <+: tb.names) (hun2 : ¬ tb.names <+: src.names)
    (hlen : src.names.length + fuel < 200 ∧ tb.names.length + fuel < 200)
    (q : List Name) (hq : ¬ tb.names <+: q) :
    obsAt (execOps fs c (walkEntry fs c none src tb (fuel + 1) [] [])).fs.root q = obsAt fs.root q :=
  any_sequential_run_changes_only_the_target_mapped fs c hd hn src tb srcNode fuel hwf hroot hsrc hsn hcop htb hne
    (fun d h => plainWhereMapped_of_plainTree d srcNode (hplain d h)) hpar hun1 hun2 hlen q hq

/-- Several sources whose operations interleave: in every reachable state, every place not at or below one of the targets
`DEST/basename(si)` is observed as before -/
theorem every_reachable_state_of_several_sources_changes_only_the_targets (fs : Fs) (c : Cfg) (dest : RPath) (items : List CopySrc) (fuel : Nat)
    (hd : c.dereference = false) (hn : c.noClobber = false)
    (hwf : FsEq fs fs)
    (hdd : ∃ es, fs.root.getAt dest.names = some (.dir es))
    (hfuel : fuel < walkFuel)
    (hsrc : ∀ e ∈ items, PlainTarget fs e.path ∧ e.path.fileName = some e.base ∧
      fs.root.getAt e.path.names = some e.node ∧ e.node.Copyable fuel ∧ e.path.names.length + walkFuel < 256)
    (hnd : (items.map (·.base)).Nodup)
    (hun : ∀ e ∈ items, ∀ e' ∈ items,
      ¬ e.path.names <+: dest.names ++ [e'.base] ∧ ¬ dest.names ++ [e'.base] <+: e.path.names)
    (hplain : ∀ e ∈ items, ∀ d, fs.root.getAt (dest.names ++ [e.base]) = some d → d.plainTree = true)
    (hlen : dest.names.length + 1 + walkFuel < 256)
    (ls : List L0.Label) (s : L0.St)
    (hrun : L0.run c (L0.init fs (multiOps fs c dest items)) ls = some s)
    (q : List Name) (hq : ∀ e ∈ items, ¬ dest.names ++ [e.base] <+: q) :
    obsAt s.fs.root q = obsAt fs.root q := by
  obtain ⟨hops, hspec, hinv⟩ := multi_frame_setup ⟨hwf, hdd, hfuel, hsrc, hnd, hun, hlen⟩ c hd hn
    (fun e he d hd => plainWhereMapped_of_plainTree d e.node (hplain e he d hd))
  rw [hops] at hrun
  exact (hinv.run hspec c ls s hrun).frame q hq

/-- the hypotheses are satisfiable by a FAILING run: on the clashing instance of `XcpProofs/ClashExample.lean` the theorem
applies (its target is a plain tree) and the run fails -/
example (q : List Name) (hq : ¬ ClashExample.tb.names <+: q) :
    obsAt (execOps ClashExample.exFs {} (walkEntry ClashExample.exFs {} none ClashExample.src ClashExample.tb
      (ClashExample.fuel + 1) [] [])).fs.root q = obsAt ClashExample.exFs.root q ∧
    (execOps ClashExample.exFs {} (walkEntry ClashExample.exFs {} none ClashExample.src ClashExample.tb
      (ClashExample.fuel + 1) [] [])).exit = .err := by
  refine ⟨(single_frame ClashExample.exSetup {} rfl rfl fun d h => ?_).2 q hq, ClashExample.instance_fails⟩
  rw [ClashExample.exDst] at h
  cases h
  exact plainWhereMapped_of_plainTree _ _ rfl

/-- … with `--dereference` as well: the operations read from wherever the links lead, but in every reachable state — failed
or not — every place not at or below the target is observed as initially; in particular every place a link of the source
leads to, anywhere in the namespace (no `ReadsAway` needed: the frame is about what is WRITTEN) -/
theorem every_reachable_state_with_dereference_changes_only_the_target (fs : Fs) (c : Cfg) (hd : c.dereference = true)
    (hn : c.noClobber = false)
    (src tb : RPath) (s : SNode) (fuel : Nat)
    (hwf : FsEq fs fs)
    (hsrc : AbsNames src)
    (hder : derefS fs (fuel + 1) src.names [] = some s)
    (htb : PlainTarget fs tb) (hne : tb.names ≠ [])
    (hplain : ∀ d, fs.root.getAt tb.names = some d → d.plainTree = true)
    (hpar : ∃ es, fs.root.getAt tb.names.dropLast = some (.dir es))
    (hlen : tb.names.length + fuel < 255)
    (ls : List L0.Label) (st : L0.St)
    (hrun : L0.run c (L0.init fs (walkEntry fs c none src tb (fuel + 1) [] [])) ls = some st) :
    ∀ q, ¬ tb.names <+: q → obsAt st.fs.root q = obsAt fs.root q := by
  obtain ⟨hshape, hspec, hinv⟩ := deref_frame_setup ⟨hwf, hsrc, hder, htb, hne, hpar, hlen⟩ c hd hn
    (mappedPlain_of_forall fun d h => plainWhereMapped_of_plainTree d s.erase (hplain d h))
  rw [hshape] at hrun
  exact (hinv.run hspec c ls st hrun).frame

/-- … and with `--gitignore` patterns in force -/
theorem every_reachable_state_with_gitignore_changes_only_the_target (fs : Fs) (c : Cfg) (hd : c.dereference = false)
    (hn : c.noClobber = false) (ps : List Gi.Pattern)
    (src tb : RPath) (srcNode : Node) (fuel : Nat)
    (hwf : FsEq fs fs) (hroot : fs.root.isDir = true)
    (hsrc : PlainTarget fs src) (hsn : fs.root.getAt src.names = some srcNode)
    (hcop : srcNode.Copyable fuel)
    (htb : PlainTarget fs tb) (hne : tb.names ≠ [])
    (hplain : ∀ d, fs.root.getAt tb.names = some d → d.plainTree = true)
    (hpar : ∃ es, fs.root.getAt tb.names.dropLast = some (.dir es))
    (hun1 : ¬ src.names <+: tb.names) (hun2 : ¬ tb.names <+: src.names)
    (hlen : src.names.length + fuel < 200 ∧ tb.names.length + fuel < 200)
    (ls : List L0.Label) (s : L0.St)
    (hrun : L0.run c (L0.init fs (walkEntry fs c (some ps) src tb (fuel + 1) [] [])) ls = some s)
    (q : List Name) (hq : ¬ tb.names <+: q) :
    obsAt s.fs.root q = obsAt fs.root q := by
  exact (gitignore_frame (.of_hyps hwf hroot hsrc hsn hcop htb hne hpar hun1 hun2 hlen) c hd hn ps
    (mappedPlain_of_forall fun d h => plainWhereMapped_of_plainTree d _ (hplain d h))).1 ls s hrun q hq

/-- The whole program model, whatever its exit (accepted or rejected by validation, successful, clashing half-way): every place
not at or below a target `DEST/basename(si)` is observed exactly as before; a rejected invocation leaves the file system
untouched altogether (`Xcp.whole_invocation_rejected_or_started`) -/
theorem whole_invocation_of_any_exit_changes_only_the_targets (fs : Fs) (o : Opts) (texts : GiTexts) (dest : RPath) (items : List CopySrc) (fuel : Nat)
    (hd : o.cfg.dereference = false) (hn : o.cfg.noClobber = false) (hg : o.cfg.gitignore = false)
    (hnt : o.cfg.noTargetDir = false) (hrec : o.cfg.recursive = true) (hglob : o.glob = false)
    (hpaths : (o.targetDir = none ∧ o.paths = items.map (·.path) ++ [dest]) ∨
      (o.targetDir = some dest ∧ o.paths = items.map (·.path)))
    (hne : items ≠ [])
    (hwf : FsEq fs fs)
    (hdest : PlainTarget fs dest) (hdd : ∃ es, fs.root.getAt dest.names = some (.dir es))
    (hfuel : fuel < walkFuel)
    (hsrc : ∀ e ∈ items, PlainTarget fs e.path ∧ e.path.fileName = some e.base ∧
      fs.root.getAt e.path.names = some e.node ∧ e.node.Copyable fuel ∧ e.path.names.length + walkFuel < 256)
    (hnd : (items.map (·.base)).Nodup)
    (hun : ∀ e ∈ items, ∀ e' ∈ items,
      ¬ e.path.names <+: dest.names ++ [e'.base] ∧ ¬ dest.names ++ [e'.base] <+: e.path.names)
    (hplain : ∀ e ∈ items, ∀ d, fs.root.getAt (dest.names ++ [e.base]) = some d → d.plainTree = true)
    (hlen : dest.names.length + 1 + walkFuel < 256) :
    ∀ q, (∀ e ∈ items, ¬ dest.names ++ [e.base] <+: q) →
      obsAt (L1run fs o texts).fs.root q = obsAt fs.root q := by
  have _ := hrec   -- only validation looks at it, and validation is not assumed to accept
  have _ := hne
  intro q hq
  rcases whole_invocation_rejected_or_started fs o texts dest items hglob hpaths with ⟨_, hL⟩ | hL
  · rw [hL]
    have h := MultiHyp.runSources_frame ⟨hwf, hdd, hfuel, hsrc, hnd, hun, hlen⟩ o.cfg texts hd hn hg hnt
      (fun e he => mappedPlain_of_forall fun d hd => plainWhereMapped_of_plainTree d e.node (hplain e he d hd)) q hq
    rw [← plainTarget_eq fs dest hdest] at h
    exact h
  · rw [hL]

/-- … and with a destination that is plain only where the source maps onto it (links and special files under other names, as
an earlier copy leaves them): still, in every reachable state, only places at or below the target change -/
theorem every_reachable_state_changes_only_the_target_links_elsewhere_allowed (fs : Fs) (c : Cfg) (hd : c.dereference = false) (hn : c.noClobber = false)
    (src tb : RPath) (srcNode : Node) (fuel : Nat)
    (hwf : FsEq fs fs) (hroot : fs.root.isDir = true)
    (hsrc : PlainTarget fs src) (hsn : fs.root.getAt src.names = some srcNode)
    (hcop : srcNode.Copyable fuel)
    (htb : PlainTarget fs tb) (hne : tb.names ≠ [])
    (hplain : ∀ d, fs.root.getAt tb.names = some d → d.plainWhereMapped srcNode = true)
    (hpar : ∃ es, fs.root.getAt tb.names.dropLast = some (.dir es))
    (hun1 : ¬ src.names <+: tb.names) (hun2 : ¬ tb.names <+: src.names)
    (hlen : src.names.length + fuel < 200 ∧ tb.names.length + fuel < 200)
    (ls : List L0.Label) (s : L0.St)
    (hrun : L0.run c (L0.init fs (walkEntry fs c none src tb (fuel + 1) [] [])) ls = some s)
    (q : List Name) (hq : ¬ tb.names <+: q) :
    obsAt s.fs.root q = obsAt fs.root q := by
  exact (single_frame (.of_hyps hwf hroot hsrc hsn hcop htb hne hpar hun1 hun2 hlen) c hd hn hplain).1 ls s hrun q hq

end Xcp.C03