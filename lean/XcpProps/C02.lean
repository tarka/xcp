import XcpProofs.FsDefs
import XcpProofs.WalkerLemmas
import XcpProofs.MirrorExample
import XcpProofs.Overlay
import XcpProofs.MultiSource
import XcpProofs.MultiSourceExample
import XcpProofs.EndToEnd
import XcpProofs.OptionIrrelevance
import XcpProofs.Clash
import XcpProofs.ClashExample
import XcpProofs.MultiClash
import XcpProofs.DerefOverlay
import XcpProofs.EndToEndClash
/-! # C02 — exit 0 implies the destination tree mirrors the selected source tree

Model slice: `targetBase` (cp's mapping rule), `walkEntry` (one operation per selected entry, by kind),
`execOp` (what each operation leaves at its target) and the frame theorems of C03/C08.

What is proved here, per operation and for *plain* targets (`PlainTarget`: absolute, names only, no trailing
slash, no symbolic link at the target or at any of its ancestors; the tree's root is a directory; the target
is shorter than the kernel's resolution fuel): the walker emits, first, exactly one operation for an entry,
chosen by the entry's kind; and each operation, when it succeeds, leaves at its target a directory / a regular
file with the source's content / a symbolic link with identical target text / the identical special node.
A run exits 0 exactly when every operation succeeded in sequence.

The induction over the whole tree that composes these per-operation facts with the frame theorems
(`C03.plain_op_frame`, `C08.fresh_run_preserves`) into "final tree = dest₀ overlaid with the image of the
selected source tree" is the second part of the file, from `fresh_destination_mirrors_the_source` on.  The
whole-sandbox end-state correspondence run compares exactly that, on every run. -/
namespace Xcp.C02

open Xcp

/-- cp's mapping rule: into an existing directory (and without no-target-directory) the target is
dest/basename(source); otherwise, or with no-target-directory, it is dest itself. -/
theorem mapping_rule (fs : Fs) (c : Cfg) (dest src sd : RPath) (h : src.lastComp = some sd) :
    targetBase fs c dest src =
      some (if fs.exists dest = true ∧ fs.isDir dest = true ∧ c.noTargetDir = false then dest.join sd else dest) := by
  unfold targetBase
  simp only [h]
  cases fs.exists dest <;> cases fs.isDir dest <;> cases c.noTargetDir <;> simp

/-- "regular files as regular files": a successful copy leaves at the target a regular file holding exactly the
content of the regular file the source designates.

The hypothesis `hsp` (the target is not an EXISTING socket/device/fifo) is needed: in the model, as in the
kernel, `File::create` on an existing fifo or device opens it for writing without replacing it, and reports
success — counter-example: `t` a fifo, `s` a regular file; `execOp` succeeds with `fs' = fs` and
`fs'.contentOf t = none`.  `hroot` (the tree's root is a directory) is well-formedness of the model state:
with a non-directory root, `/a` resolves to "missing below /" and `setAt` inserts nothing. -/
theorem copy_leaves_source_content (fs fs' : Fs) (c : Cfg) (s t : RPath) (hp : PlainTarget fs t)
    (hroot : fs.root.isDir = true) (hlen : t.names.length < 256)
    (hsp : ∀ k d, fs.root.getAt t.names ≠ some (.special k d))
    (h : execOp fs c (.copy s t) = some fs') :
    fs'.contentOf t = fs.contentOf s ∧ fs.contentOf s ≠ none :=
  execOp_copy_plain fs fs' c s t t.names (plainTarget_eq fs t hp) hroot (Nat.le_of_lt hlen) hp.2.2.2 hsp h

/-- "symbolic links as links with identical target text": a successful link operation leaves at the target
(not followed) a symbolic link whose text is the one given, byte for byte -/
theorem link_leaves_identical_text (fs fs' : Fs) (c : Cfg) (text t : RPath) (hp : PlainTarget fs t)
    (hroot : fs.root.isDir = true) (hlen : t.names.length < 256)
    (h : execOp fs c (.link text t) = some fs') :
    fs'.lstat t = some (t.names, .link text) :=
  execOp_link_plain fs fs' c text t t.names (plainTarget_eq fs t hp) hroot (Nat.le_of_lt hlen)
    (NoLinkUpto.above hp.2.2.2) h

/-- "directories as directories": after a successful mkdir operation (`create_dir_all`, no extra hypothesis on
the parent) the target is a directory -/
theorem mkdir_leaves_directory (fs fs' : Fs) (c : Cfg) (t : RPath) (hp : PlainTarget fs t)
    (hroot : fs.root.isDir = true) (hlen : t.names.length < 256)
    (h : execOp fs c (.mkdir t) = some fs') :
    fs'.isDir t = true :=
  execOp_mkdir_plain fs fs' c t t.names (plainTarget_eq fs t hp) hroot hlen hp.2.2.2 h

/-- special files (socket, character device, fifo) as the identical special node: same kind, same device
number; whether the target was absent or was replaced (unlink + mknod) -/
theorem special_leaves_identical_node (fs fs' : Fs) (c : Cfg) (s t : RPath) (cs : List Name) (k : FileKind)
    (rdev : Nat) (hp : PlainTarget fs t) (hroot : fs.root.isDir = true) (hlen : t.names.length < 256)
    (hs : fs.stat s = some (cs, .special k rdev))
    (h : execOp fs c (.special s t) = some fs') :
    fs'.lstat t = some (t.names, .special k rdev) :=
  execOp_special_plain fs fs' c s t t.names cs k rdev (plainTarget_eq fs t hp) hroot (Nat.le_of_lt hlen)
    (NoLinkUpto.above hp.2.2.2) hs h

/-- one operation per entry, chosen by the entry's kind (no dereference, no gitignore, no no-clobber): the
FIRST operation the walker emits for an entry that `lstat` finds is a copy for a regular file, a link with the
link's own text for a symbolic link, a mkdir for a directory, a special-file operation for a socket, character
device or fifo, and the failure marker for a block device or an unknown kind; the target is `tb` joined with
the entry's path relative to the source -/
theorem walk_emits_one_operation_per_kind (fs : Fs) (c : Cfg) (hd : c.dereference = false)
    (hn : c.noClobber = false) (src tb : RPath) (fuel : Nat) (rel : List Name) (anc : List (List Name))
    (cp : List Name) (n : Node) (hl : fs.lstat (relJoin src rel) = some (cp, n)) :
    let first := (walkEntry fs c none src tb (fuel + 1) rel anc).head?
    (∀ k, n = .file k → first = some (.copy (relJoin src rel) (relJoin tb rel))) ∧
    (∀ text, n = .link text → first = some (.link text (relJoin tb rel))) ∧
    (∀ es, n = .dir es → first = some (.mkdir (relJoin tb rel))) ∧
    (∀ k d, n = .special k d → (k = .socket ∨ k = .chr ∨ k = .fifo) →
      first = some (.special (relJoin src rel) (relJoin tb rel))) ∧
    (∀ k d, n = .special k d → (k = .blk ∨ k = .other) → first = some .fail) := by
  intro first
  have hh : first = (hereOps n (relJoin src rel) (relJoin tb rel)).head? :=
    walkEntry_head fs c hd none src tb fuel rel anc cp n hl (giDrops_none ..) (by rw [hn]; rfl)
  refine ⟨?_, ?_, ?_, ?_, ?_⟩
  · intro k hk; subst hk; rw [hh]; rfl
  · intro text hk; subst hk; rw [hh]; rfl
  · intro es hk; subst hk; rw [hh]; rfl
  · intro k d hk hkind; subst hk; rw [hh]
    rcases hkind with hk | hk | hk <;> subst hk <;> rfl
  · intro k d hk hkind; subst hk; rw [hh]
    rcases hkind with hk | hk <;> subst hk <;> rfl

/-- exit status: a run that exits 0 contained no failure marker, and it exits 0 exactly when every operation,
run in sequence each on the state left by its predecessors, succeeded (`AllSucceed`); so any failed or refused
operation — and any stop of the walk — makes the run exit non-zero -/
theorem failed_run_exits_nonzero_successful_run_ran_everything (fs : Fs) (c : Cfg) (ops : List Op) :
    ((execOps fs c ops).exit = .ok → ∀ op ∈ ops, op ≠ .fail) ∧
    ((execOps fs c ops).exit = .ok ↔ AllSucceed c fs ops) :=
  ⟨execOps_ok_no_fail c ops fs, execOps_ok_iff c ops fs⟩

/-- The tree induction for a fresh target: copying a source tree `srcNode` (regular files, links, sockets/char devices/FIFOs,
directories to any depth) found at the plain path `src` to a plain ABSENT target `tb` whose parent directory exists runs
every emitted operation successfully and leaves EXACTLY the source tree at `tb` — every directory, file (content), link
(text) and special node at the corresponding relative path — and changes nothing else anywhere (`Node.setAt`).
Hypotheses shown satisfiable on a concrete tree: next theorem. -/
theorem fresh_destination_mirrors_the_source (fs : Fs) (c : Cfg) (hd : c.dereference = false) (hn : c.noClobber = false)
    (src tb : RPath) (srcNode : Node) (fuel : Nat)
    (hwf : FsEq fs fs) (hroot : fs.root.isDir = true)
    (hsrc : PlainTarget fs src) (hsn : fs.root.getAt src.names = some srcNode)
    (hcop : srcNode.Copyable fuel)
    (htb : PlainTarget fs tb) (hne : tb.names ≠ []) (habs : fs.root.getAt tb.names = none)
    (hpar : ∃ es, fs.root.getAt tb.names.dropLast = some (.dir es))
    (hun1 : ¬ src.names <+: tb.names) (hun2 : ¬ tb.names <+: src.names)
    (hlen : src.names.length + fuel < 200 ∧ tb.names.length + fuel < 200) :
    ∃ fs', execOps fs c (walkEntry fs c none src tb (fuel + 1) [] []) = ⟨.ok, fs'⟩ ∧
      FsEq fs' { fs with root := fs.root.setAt tb.names srcNode } :=
  mirror_fresh (.of_hyps hwf hroot hsrc hsn hcop htb hne hpar hun1 hun2 hlen) c hd hn habs

/-- the hypotheses of `fresh_destination_mirrors_the_source` are met by a concrete tree with a file, a link, a
sub-directory holding a file and a FIFO, copied into an existing empty directory -/
theorem fresh_destination_hypotheses_are_satisfiable :
    ∃ (fs : Fs) (c : Cfg) (src tb : RPath) (srcNode : Node) (fuel : Nat), c.dereference = false ∧ c.noClobber = false ∧
      FsEq fs fs ∧ fs.root.isDir = true ∧ PlainTarget fs src ∧ fs.root.getAt src.names = some srcNode ∧
      srcNode.Copyable fuel ∧ PlainTarget fs tb ∧ tb.names ≠ [] ∧ fs.root.getAt tb.names = none ∧
      (∃ es, fs.root.getAt tb.names.dropLast = some (.dir es)) ∧ ¬ src.names <+: tb.names ∧ ¬ tb.names <+: src.names ∧
      (src.names.length + fuel < 200 ∧ tb.names.length + fuel < 200) ∧ (∃ es, srcNode = .dir es ∧ 3 ≤ es.length) := by
  open MirrorExample in
  refine ⟨fs0, c0, src0, tb0, SN, 2, rfl, rfl, fs0_wf, rfl, src0_plain, ?_, SN_copyable, tb0_plain, ?_, ?_, ?_,
    ?_, ?_, ?_, ⟨_, rfl, by decide⟩⟩
  · rw [src0_names]; exact getS
  · rw [tb0_names]; simp
  · rw [tb0_names]; exact getDS
  · rw [tb0_names]; exact ⟨[], getD⟩
  · rw [src0_names, tb0_names]; decide
  · rw [src0_names, tb0_names]; decide
  · rw [src0_names, tb0_names]; decide

/-- The tree induction for an existing destination ("destination overlaid with the image"): as the previous theorem, but the
target may already exist and is merged into — a second run of the same copy, or a destination directory holding other
entries.  `Compatible dst src` (decidable) says that, position by position, the destination holds nothing, a regular file
where the source has a regular or special file, a special file where the source has one, or a directory where the source
has a directory (recursively); it EXCLUDES a symbolic link in the destination where the source has a file — that is the
recorded finding F13 (written through) — and kind conflicts, which fail.  Then every operation succeeds and the final
file system is the initial one with `Node.overlay dst src` at the target: source entries replace or are added to the
existing ones, recursively -/
theorem existing_destination_is_overlaid (fs : Fs) (c : Cfg) (hd : c.dereference = false) (hn : c.noClobber = false)
    (src tb : RPath) (srcNode : Node) (fuel : Nat)
    (hwf : FsEq fs fs) (hroot : fs.root.isDir = true)
    (hsrc : PlainTarget fs src) (hsn : fs.root.getAt src.names = some srcNode)
    (hcop : srcNode.Copyable fuel)
    (htb : PlainTarget fs tb) (hne : tb.names ≠ [])
    (hcompat : Compatible (fs.root.getAt tb.names) srcNode)
    (hpar : ∃ es, fs.root.getAt tb.names.dropLast = some (.dir es))
    (hun1 : ¬ src.names <+: tb.names) (hun2 : ¬ tb.names <+: src.names)
    (hlen : src.names.length + fuel < 200 ∧ tb.names.length + fuel < 200) :
    ∃ fs', execOps fs c (walkEntry fs c none src tb (fuel + 1) [] []) = ⟨.ok, fs'⟩ ∧
      FsEq fs' { fs with root := fs.root.setAt tb.names (Node.overlay (fs.root.getAt tb.names) srcNode) } :=
  mirror_overlay (.of_hyps hwf hroot hsrc hsn hcop htb hne hpar hun1 hun2 hlen) c hd (.inl hn) hcompat

/-- … and what the destination directory held under names the source directory does not list is observed unchanged,
at every depth -/
theorem existing_destination_keeps_other_entries (fs : Fs) (c : Cfg) (hd : c.dereference = false) (hn : c.noClobber = false)
    (src tb : RPath) (des ses : Entries) (fuel : Nat)
    (hwf : FsEq fs fs) (hroot : fs.root.isDir = true)
    (hsrc : PlainTarget fs src) (hsn : fs.root.getAt src.names = some (.dir ses))
    (hcop : (Node.dir ses).Copyable fuel)
    (htb : PlainTarget fs tb) (hne : tb.names ≠ [])
    (hdst : fs.root.getAt tb.names = some (.dir des))
    (hcompat : Compatible (some (.dir des)) (.dir ses))
    (hpar : ∃ es, fs.root.getAt tb.names.dropLast = some (.dir es))
    (hun1 : ¬ src.names <+: tb.names) (hun2 : ¬ tb.names <+: src.names)
    (hlen : src.names.length + fuel < 200 ∧ tb.names.length + fuel < 200) :
    ∃ fs', execOps fs c (walkEntry fs c none src tb (fuel + 1) [] []) = ⟨.ok, fs'⟩ ∧
      ∀ m q, m ∉ ses.map (·.1) → obsAt fs'.root (tb.names ++ m :: q) = obsAt fs.root (tb.names ++ m :: q) := by
  obtain ⟨fs', hrun, heq⟩ := mirror_overlay (.of_hyps hwf hroot hsrc hsn hcop htb hne hpar hun1 hun2 hlen) c hd (.inl hn) (by rw [hdst]; exact hcompat)
  refine ⟨fs', hrun, ?_⟩
  intro m q hm
  rw [heq.2.2.2 (tb.names ++ m :: q), hdst]
  simp only [obsAt]
  rw [overlay_keeps_entry fs.root tb.names des ses m q hdst hm]

/-- the overlay on a concrete pair: an existing file is replaced, an existing file the source lacks stays, a new one is added -/
example : Node.overlay (some (.dir [([1], .file 0), ([2], .file 5), ([3], .dir [])]))
    (.dir [([1], .file 7), ([4], .file 8), ([3], .dir [([9], .file 1)])]) =
    .dir [([1], .file 7), ([2], .file 5), ([3], .dir [([9], .file 1)]), ([4], .file 8)] := by rfl

/-- Several sources in one run, `xcp -r s1 … sn DEST/` with `DEST` an existing plain directory: `runSources` (each
source's target evaluated against the state the previous sources left, as the real walker does) succeeds, and the final
file system is the initial one with, for each source in argv order, `DEST/basename(si)` overlaid with the tree `si`
designates — provided the base names are distinct (two sources onto one name is finding F10), no source lies inside a
target or vice versa, and each target is compatible with its source in the initial state -/
theorem several_sources_each_mirrored (fs : Fs) (c : Cfg) (texts : GiTexts) (dest : RPath) (items : List CopySrc) (fuel : Nat)
    (hd : c.dereference = false) (hn : c.noClobber = false) (hg : c.gitignore = false)
    (hnt : c.noTargetDir = false)
    (hwf : FsEq fs fs)
    (hdest : PlainTarget fs dest) (hdd : ∃ es, fs.root.getAt dest.names = some (.dir es))
    (hfuel : fuel < walkFuel)
    (hsrc : ∀ e ∈ items, PlainTarget fs e.path ∧ e.path.fileName = some e.base ∧
      fs.root.getAt e.path.names = some e.node ∧ e.node.Copyable fuel ∧ e.path.names.length + walkFuel < 256)
    (hnd : (items.map (·.base)).Nodup)
    (hun : ∀ e ∈ items, ∀ e' ∈ items,
      ¬ e.path.names <+: dest.names ++ [e'.base] ∧ ¬ dest.names ++ [e'.base] <+: e.path.names)
    (hcomp : ∀ e ∈ items, Compatible (fs.root.getAt (dest.names ++ [e.base])) e.node)
    (hlen : dest.names.length + 1 + walkFuel < 256) :
    (∃ fs', runSources fs c texts dest (items.map (·.path)) = ⟨.ok, fs'⟩ ∧
      FsEq fs' { fs with root := overlayAll fs.root dest.names items fs.root }) ∧
    (∃ fs', runSources fs c texts dest (items.map (·.path)) = ⟨.ok, fs'⟩ ∧ ∀ e ∈ items,
      obsAt fs'.root (dest.names ++ [e.base]) =
        some (Node.overlay (fs.root.getAt (dest.names ++ [e.base])) e.node).obs ∧
      obsAt fs'.root e.path.names = some e.node.obs) := by
  obtain ⟨fs', hrun, heq⟩ :=
    multi_overlay fs c texts dest items fuel ⟨hwf, hdd, hfuel, hsrc, hnd, hun, hlen⟩ hd hn hg hnt hdest hcomp
  obtain ⟨htgt, hout⟩ := overlayAll_reads fs.root fs'.root dest.names items heq.2.2.2 hdd hnd
  refine ⟨⟨fs', hrun, heq⟩, fs', hrun, fun e he => ⟨htgt e he, ?_⟩⟩
  rw [hout e.path.names (fun e' he' => ⟨(hun e he e' he').2, (hun e he e' he').1⟩)]
  simp only [obsAt, (hsrc e he).2.2.1, Option.map_some]

/-- the hypotheses of `several_sources_each_mirrored` are met by a concrete run of two sources, one merged into an existing
`D/A` (a file overwritten, a file kept, a link added), one copied to a fresh `D/B` (with a sub-directory and a FIFO) -/
theorem several_sources_hypotheses_are_satisfiable (texts : GiTexts) :
    ∃ fs', runSources MultiSourceExample.fs0 MultiSourceExample.c0 texts MultiSourceExample.dest0
        (MultiSourceExample.items0.map (·.path)) = ⟨.ok, fs'⟩ ∧
      FsEq fs' { MultiSourceExample.fs0 with root := MultiSourceExample.expectedRoot } := by
  open MultiSourceExample in
  have h := multi_overlay fs0 c0 texts dest0 items0 2
    ⟨fs0_wf, ⟨_, getD⟩, by decide, h_src, by decide, h_unrel, by decide⟩ rfl rfl rfl rfl dest0_plain h_compat
  rw [MultiSourceExample.overlayAll_instance] at h
  exact h


/-- End to end, in terms of the function the correspondence check runs against the real program: the invocation
`xcp -r s1 … sn DEST` (or `-t DEST s1 … sn`) passes main's validation and `L1run` ends with every source overlaid at
`DEST/basename`, under the hypotheses of `several_sources_each_mirrored` -/
theorem whole_invocation_mirrors_its_sources (fs : Fs) (o : Opts) (texts : GiTexts) (dest : RPath) (items : List CopySrc) (fuel : Nat)
    (hd : o.cfg.dereference = false) (hn : o.cfg.noClobber = false) (hg : o.cfg.gitignore = false)
    (hnt : o.cfg.noTargetDir = false) (hrec : o.cfg.recursive = true) (hglob : o.glob = false)
    (hpaths : (o.targetDir = none ∧ o.paths = items.map (·.path) ++ [dest]) ∨
      (o.targetDir = some dest ∧ o.paths = items.map (·.path)))
    (hne : items ≠ [])
    (hwf : FsEq fs fs)
    (hdest : PlainTarget fs dest) (hdd : ∃ es, fs.root.getAt dest.names = some (.dir es))
    (hfuel : fuel < walkFuel)
    (hsrc : ∀ e ∈ items, PlainTarget fs e.path ∧ e.path.fileName = some e.base ∧
      fs.root.getAt e.path.names = some e.node ∧ e.node.Copyable fuel ∧ e.path.names.length + walkFuel < 256)
    (hnd : (items.map (·.base)).Nodup)
    (hun : ∀ e ∈ items, ∀ e' ∈ items,
      ¬ e.path.names <+: dest.names ++ [e'.base] ∧ ¬ dest.names ++ [e'.base] <+: e.path.names)
    (hcomp : ∀ e ∈ items, Compatible (fs.root.getAt (dest.names ++ [e.base])) e.node)
    (hlen : dest.names.length + 1 + walkFuel < 256) :
    validate fs o = .ok (items.map (·.path), dest) ∧
    ∃ fs', L1run fs o texts = ⟨.ok, fs'⟩ ∧
      FsEq fs' { fs with root := overlayAll fs.root dest.names items fs.root } :=
  l1run_overlay fs o texts dest items fuel ⟨hwf, hdd, hfuel, hsrc, hnd, hun, hlen⟩ hd hn hg hnt hrec hglob hpaths hne
    hdest hcomp

/-- `xcp -r S NEW`: the destination does not exist, its parent does: the whole invocation ends with the source tree at NEW -/
theorem whole_invocation_to_a_new_name (fs : Fs) (o : Opts) (texts : GiTexts) (src dest : RPath) (srcNode : Node) (fuel : Nat)
    (hd : o.cfg.dereference = false) (hn : o.cfg.noClobber = false) (hg : o.cfg.gitignore = false)
    (hrec : o.cfg.recursive = true) (hglob : o.glob = false)
    (htd : o.targetDir = none) (hpaths : o.paths = [src, dest])
    (hwf : FsEq fs fs) (hroot : fs.root.isDir = true)
    (hsrc : PlainTarget fs src) (hsn : fs.root.getAt src.names = some srcNode)
    (hcop : srcNode.Copyable fuel) (hfuel : fuel < walkFuel)
    (htb : PlainTarget fs dest) (hne : dest.names ≠ []) (habs : fs.root.getAt dest.names = none)
    (hpar : ∃ es, fs.root.getAt dest.names.dropLast = some (.dir es))
    (hun1 : ¬ src.names <+: dest.names) (hun2 : ¬ dest.names <+: src.names)
    (hlen : src.names.length + walkFuel < 200 ∧ dest.names.length + walkFuel < 200) :
    ∃ fs', L1run fs o texts = ⟨.ok, fs'⟩ ∧ FsEq fs' { fs with root := fs.root.setAt dest.names srcNode } := by
  rw [walkFuel_eq] at hfuel hlen
  have hse := plainTarget_eq fs src hsrc
  have hde := plainTarget_eq fs dest htb
  obtain ⟨pes, hpes⟩ := hpar
  -- the destination is a new name below an existing directory
  rcases List.eq_nil_or_concat dest.names with h0 | ⟨par, nm, h0⟩
  · exact absurd h0 hne
  rw [List.concat_eq_append] at h0
  have hpl : par.length < 256 := by
    have := hlen.2
    rw [h0, List.length_append] at this
    omega
  have hpes' : fs.root.getAt par = some (.dir pes) := by
    rw [h0, List.dropLast_concat] at hpes; exact hpes
  have habs' : fs.root.getAt (par ++ [nm]) = none := by rw [← h0]; exact habs
  have hexd : fs.exists dest = false := by
    rw [hde, h0]; exact exists_false_of_absent fs par nm pes hpl hpes' habs'
  have hcs : checkSource fs o dest src = .ok () := by
    rw [hde, hse, h0]
    exact checkSource_to_new fs o hrec par src.names nm srcNode pes hpes' habs' hsn (hsrc.not_link hsn)
      (by omega) hpl
  have hv := validate_ok fs o dest [src] hn hglob (.inl ⟨htd, hpaths⟩) (by simp) (.inr ⟨rfl, hexd⟩)
    (by simp [checkSources, hcs])
  obtain ⟨fs', hrun, heq⟩ := mirror_fresh (srcNode := srcNode) (fuel := 63)
    (.of_hyps hwf hroot hsrc hsn (copyable_mono hcop (by omega)) htb hne ⟨pes, hpes⟩ hun1 hun2 ⟨by omega, by omega⟩)
    o.cfg hd hn habs
  refine ⟨fs', ?_, heq⟩
  simp only [L1run, hv]
  rw [runSources_eq_foldRun, foldRun_cons_ok ((runSource_eq (targetBase_absent fs o.cfg dest src hsrc.1 hexd)
    (parseIgnore_off fs o.cfg texts src hg)).trans hrun)]
  rfl

/-- the end-to-end statement on the concrete two-source instance -/
theorem whole_invocation_instance (texts : GiTexts) :
    ∃ fs', L1run MultiSourceExample.fs0 MultiSourceExample.o0 texts = ⟨.ok, fs'⟩ ∧
      FsEq fs' { MultiSourceExample.fs0 with root := MultiSourceExample.expectedRoot } := by
  have h := (MultiSourceExample.l1run_instance texts).2
  rw [MultiSourceExample.overlayAll_instance] at h
  exact h

/-- the result of a whole invocation depends only on the options that are ABOUT the namespace (no-clobber, dereference,
no-target-directory, gitignore, recursive, force, glob, target directory, the paths): driver, worker count, block size
(`--no-progress`), `--fsync`, `--no-perms`, `--no-timestamps`, `--ownership`, `--reflink`, `--backup` and the backend cannot
change it — the checks draw these at random per scenario and compare with the same model answer -/
theorem driver_and_metadata_options_do_not_change_the_tree (fs : Fs) (o o' : Opts) (texts : GiTexts)
    (hc : o.cfg.sameShape o'.cfg) (hf : o.force = o'.force) (hg : o.glob = o'.glob)
    (ht : o.targetDir = o'.targetDir) (hp : o.paths = o'.paths) :
    L1run fs o texts = L1run fs o' texts :=
  l1run_depends_only_on_shape_options fs o o' texts hc hf hg ht hp

/-- `Cfg.sameShape` is agreement on exactly five fields; every other field is free -/
example (c : Cfg) (w b : Nat) (x : Bool) : c.sameShape { c with workers := w, bsize := b, parblock := x, fsync := x, noPerms := x, ownership := x } :=
  ⟨rfl, rfl, rfl, rfl, rfl⟩

/-- a destination that CLASHES with the source: for a destination made of directories and regular files (at every depth)
that is not `Compatible` with the source — somewhere a source directory meets a regular file, a regular or special file
meets a directory, or a symbolic link of the source meets anything that exists — the run exits non-zero (the model runs
the operations in walk order and stops at the first that fails; those before it have run) -/
theorem clashing_destination_exits_nonzero (fs : Fs) (c : Cfg) (hd : c.dereference = false) (hn : c.noClobber = false)
    (src tb : RPath) (srcNode dstNode : Node) (fuel : Nat)
    (hwf : FsEq fs fs) (hroot : fs.root.isDir = true)
    (hsrc : PlainTarget fs src) (hsn : fs.root.getAt src.names = some srcNode)
    (hcop : srcNode.Copyable fuel)
    (htb : PlainTarget fs tb) (hne : tb.names ≠ [])
    (hdst : fs.root.getAt tb.names = some dstNode) (hplain : dstNode.plainTree = true)
    (hclash : ¬ Compatible (some dstNode) srcNode)
    (hpar : ∃ es, fs.root.getAt tb.names.dropLast = some (.dir es))
    (hun1 : ¬ src.names <+: tb.names) (hun2 : ¬ tb.names <+: src.names)
    (hlen : src.names.length + fuel < 200 ∧ tb.names.length + fuel < 200) :
    (execOps fs c (walkEntry fs c none src tb (fuel + 1) [] [])).exit = .err := by
  exact (clash_fails (.of_hyps hwf hroot hsrc hsn hcop htb hne hpar hun1 hun2 hlen) c hd hn hdst
    (plainWhereMapped_of_plainTree dstNode srcNode hplain) hclash).1

/-- The property in its own words — "on exit 0 the destination holds …" — with no assumption about compatibility: for every destination
that is absent or made of directories and regular files, exit status ok IMPLIES that the final file system is the
initial one with the overlay at the target (a destination holding symbolic links or special files is outside this
theorem: a link at a mapped position is the recorded finding F13) -/
theorem exit_zero_implies_the_destination_is_overlaid (fs : Fs) (c : Cfg) (hd : c.dereference = false) (hn : c.noClobber = false)
    (src tb : RPath) (srcNode : Node) (fuel : Nat)
    (hwf : FsEq fs fs) (hroot : fs.root.isDir = true)
    (hsrc : PlainTarget fs src) (hsn : fs.root.getAt src.names = some srcNode)
    (hcop : srcNode.Copyable fuel)
    (htb : PlainTarget fs tb) (hne : tb.names ≠ [])
    (hplain : ∀ d, fs.root.getAt tb.names = some d → d.plainTree = true)
    (hpar : ∃ es, fs.root.getAt tb.names.dropLast = some (.dir es))
    (hun1 : ¬ src.names <+: tb.names) (hun2 : ¬ tb.names <+: src.names)
    (hlen : src.names.length + fuel < 200 ∧ tb.names.length + fuel < 200)
    (fs' : Fs) (hok : execOps fs c (walkEntry fs c none src tb (fuel + 1) [] []) = ⟨.ok, fs'⟩) :
    FsEq fs' { fs with root := fs.root.setAt tb.names (Node.overlay (fs.root.getAt tb.names) srcNode) } := by
  exact ok_implies_overlaid (.of_hyps hwf hroot hsrc hsn hcop htb hne hpar hun1 hun2 hlen) c hd hn
    (fun d h => plainWhereMapped_of_plainTree d srcNode (hplain d h)) fs' hok

/-- the hypotheses of `clashing_destination_exits_nonzero` are satisfiable together, and the model evaluated on that
instance agrees with the theorem: the sibling before the clash is copied, the run fails, the clashing entry and the
destination's other entry are kept -/
example : (execOps ClashExample.exFs {} (walkEntry ClashExample.exFs {} none ClashExample.src ClashExample.tb
      (ClashExample.fuel + 1) [] [])).exit = .err ∧
    (execOps ClashExample.exFs {} (walkEntry ClashExample.exFs {} none ClashExample.src ClashExample.tb
      (ClashExample.fuel + 1) [] [])).fs.root.getAt [MirrorExample.nD, MirrorExample.nS, ClashExample.nkeep] = some (.file 7) :=
  ⟨ClashExample.instance_fails, ClashExample.instance_keeps_other_entry.1⟩

/-- Several sources into an existing directory, one of whose targets clashes with its source: the run (`runSources`, each
target base evaluated in the state the earlier sources left) exits non-zero -/
theorem several_sources_one_clash_exits_nonzero (fs : Fs) (c : Cfg) (texts : GiTexts) (dest : RPath) (items : List CopySrc)
    (fuel : Nat)
    (hd : c.dereference = false) (hn : c.noClobber = false) (hg : c.gitignore = false)
    (hnt : c.noTargetDir = false)
    (hwf : FsEq fs fs)
    (hdest : PlainTarget fs dest) (hdd : ∃ es, fs.root.getAt dest.names = some (.dir es))
    (hfuel : fuel < walkFuel)
    (hsrc : ∀ e ∈ items, PlainTarget fs e.path ∧ e.path.fileName = some e.base ∧
      fs.root.getAt e.path.names = some e.node ∧ e.node.Copyable fuel ∧ e.path.names.length + walkFuel < 256)
    (hnd : (items.map (·.base)).Nodup)
    (hun : ∀ e ∈ items, ∀ e' ∈ items,
      ¬ e.path.names <+: dest.names ++ [e'.base] ∧ ¬ dest.names ++ [e'.base] <+: e.path.names)
    (hplain : ∀ e ∈ items, ∀ d, fs.root.getAt (dest.names ++ [e.base]) = some d → d.plainTree = true)
    (hlen : dest.names.length + 1 + walkFuel < 256)
    (hclash : ∃ e ∈ items, ¬ Compatible (fs.root.getAt (dest.names ++ [e.base])) e.node) :
    (runSources fs c texts dest (items.map (·.path))).exit = .err := by
  have h := MultiHyp.runSources_clash ⟨hwf, hdd, hfuel, hsrc, hnd, hun, hlen⟩ c texts hd hn hg hnt
    (fun e he => mappedPlain_of_forall fun d hd => plainWhereMapped_of_plainTree d e.node (hplain e he d hd)) hclash
  rw [← plainTarget_eq fs dest hdest] at h
  exact h

/-- … and C02 for several sources with no compatibility assumed: when every existing target is made of directories and
regular files, exit status ok IMPLIES that every target is overlaid with its source tree and nothing else has changed -/
theorem several_sources_exit_zero_implies_overlaid (fs : Fs) (c : Cfg) (texts : GiTexts) (dest : RPath) (items : List CopySrc)
    (fuel : Nat)
    (hd : c.dereference = false) (hn : c.noClobber = false) (hg : c.gitignore = false)
    (hnt : c.noTargetDir = false)
    (hwf : FsEq fs fs)
    (hdest : PlainTarget fs dest) (hdd : ∃ es, fs.root.getAt dest.names = some (.dir es))
    (hfuel : fuel < walkFuel)
    (hsrc : ∀ e ∈ items, PlainTarget fs e.path ∧ e.path.fileName = some e.base ∧
      fs.root.getAt e.path.names = some e.node ∧ e.node.Copyable fuel ∧ e.path.names.length + walkFuel < 256)
    (hnd : (items.map (·.base)).Nodup)
    (hun : ∀ e ∈ items, ∀ e' ∈ items,
      ¬ e.path.names <+: dest.names ++ [e'.base] ∧ ¬ dest.names ++ [e'.base] <+: e.path.names)
    (hplain : ∀ e ∈ items, ∀ d, fs.root.getAt (dest.names ++ [e.base]) = some d → d.plainTree = true)
    (hlen : dest.names.length + 1 + walkFuel < 256)
    (fs' : Fs) (hok : runSources fs c texts dest (items.map (·.path)) = ⟨.ok, fs'⟩) :
    FsEq fs' { fs with root := overlayAll fs.root dest.names items fs.root } :=
  ok_implies_of_cases (C := ∀ e ∈ items, Compatible (fs.root.getAt (dest.names ++ [e.base])) e.node)
    (fun hcomp => multi_overlay fs c texts dest items fuel ⟨hwf, hdd, hfuel, hsrc, hnd, hun, hlen⟩ hd hn hg hnt hdest
      hcomp)
    (fun hno => several_sources_one_clash_exits_nonzero fs c texts dest items fuel hd hn hg hnt hwf hdest hdd hfuel hsrc
      hnd hun hplain hlen (exists_mem_not_of_not_forall hno)) hok

/-- `-L` onto an EXISTING destination compatible with the tree seen through the links (`s.erase`), when no place the
operations read from lies at, below or above the target (`ReadsAway`, decidable; it follows from absence for a fresh
target, `DerefSetup.readsAway`): every operation succeeds and the destination is overlaid with that tree -/
theorem dereferenced_tree_overlays_an_existing_destination (fs : Fs) (c : Cfg) (hd : c.dereference = true) (hn : c.noClobber = false)
    (src tb : RPath) (s : SNode) (fuel : Nat)
    (hwf : FsEq fs fs)
    (hsrc : AbsNames src)
    (hder : derefS fs (fuel + 1) src.names [] = some s)
    (htb : PlainTarget fs tb) (hne : tb.names ≠ [])
    (hcompat : Compatible (fs.root.getAt tb.names) s.erase)
    (hpar : ∃ es, fs.root.getAt tb.names.dropLast = some (.dir es))
    (hout : ReadsAway s tb.names)
    (hlen : tb.names.length + fuel < 255) :
    ∃ fs', execOps fs c (walkEntry fs c none src tb (fuel + 1) [] []) = ⟨.ok, fs'⟩ ∧
      FsEq fs' { fs with root := fs.root.setAt tb.names (Node.overlay (fs.root.getAt tb.names) s.erase) } :=
  overlay_deref ⟨hwf, hsrc, hder, htb, hne, hpar, hlen⟩ c hd hn hcompat hout

/-- its hypotheses are satisfiable: `/S` = {a, l → a, m → /O/f} copied with `-L` onto an existing `/T/S` = {a (other
content), z} gives {a, z, l, m} with `l`, `m` regular files -/
example : ∃ fs', execOps DerefOverlayExample.exFs DerefOverlayExample.exCfg
      (walkEntry DerefOverlayExample.exFs DerefOverlayExample.exCfg none (plainPath [DerefExample.nS])
        (plainPath [DerefExample.nT, DerefExample.nS]) 2 [] []) = ⟨.ok, fs'⟩ ∧
    FsEq fs' { DerefOverlayExample.exFs with root :=
      (DerefOverlayExample.exFs.root.setAt [DerefExample.nT, DerefExample.nS] DerefOverlayExample.exDest) } :=
  DerefOverlayExample.example_run

/-- The whole program model, the property in its own words: for `L1run` — main's validation followed by the walk of every source, the very
function the correspondence runs compare with the real program — and an invocation `xcp -r s1 … sn DEST` / `-t DEST s1 … sn`
whose existing targets are made of directories and regular files: exit status ok IMPLIES that every target is overlaid with its
source tree and nothing else has changed.  No compatibility is assumed: validation may reject, a source may clash half-way —
then the exit is not ok (`a_clash_anywhere_makes_the_whole_invocation_fail`) -/
theorem whole_invocation_exit_zero_implies_the_overlay (fs : Fs) (o : Opts) (texts : GiTexts) (dest : RPath) (items : List CopySrc) (fuel : Nat)
    (hd : o.cfg.dereference = false) (hn : o.cfg.noClobber = false) (hg : o.cfg.gitignore = false)
    (hnt : o.cfg.noTargetDir = false) (hrec : o.cfg.recursive = true) (hglob : o.glob = false)
    (hpaths : (o.targetDir = none ∧ o.paths = items.map (·.path) ++ [dest]) ∨
      (o.targetDir = some dest ∧ o.paths = items.map (·.path)))
    (hne : items ≠ [])
    (hwf : FsEq fs fs)
    (hdest : PlainTarget fs dest) (hdd : ∃ es, fs.root.getAt dest.names = some (.dir es))
    (hfuel : fuel < walkFuel)
    (hsrc : ∀ e ∈ items, PlainTarget fs e.path ∧ e.path.fileName = some e.base ∧
      fs.root.getAt e.path.names = some e.node ∧ e.node.Copyable fuel ∧ e.path.names.length + walkFuel < 256)
    (hnd : (items.map (·.base)).Nodup)
    (hun : ∀ e ∈ items, ∀ e' ∈ items,
      ¬ e.path.names <+: dest.names ++ [e'.base] ∧ ¬ dest.names ++ [e'.base] <+: e.path.names)
    (hplain : ∀ e ∈ items, ∀ d, fs.root.getAt (dest.names ++ [e.base]) = some d → d.plainTree = true)
    (hlen : dest.names.length + 1 + walkFuel < 256)
    (fs' : Fs) (hrun : L1run fs o texts = ⟨.ok, fs'⟩) :
    FsEq fs' { fs with root := overlayAll fs.root dest.names items fs.root } := by
  have _ := hrec   -- only validation looks at it, and validation is not assumed to accept
  have _ := hne
  rcases whole_invocation_rejected_or_started fs o texts dest items hglob hpaths with ⟨_, hL⟩ | hL
  · rw [hL] at hrun
    exact several_sources_exit_zero_implies_overlaid fs o.cfg texts dest items fuel hd hn hg hnt hwf hdest hdd hfuel hsrc hnd
      hun hplain hlen fs' hrun
  · rw [hL] at hrun
    cases hrun

theorem a_clash_anywhere_makes_the_whole_invocation_fail (fs : Fs) (o : Opts) (texts : GiTexts) (dest : RPath) (items : List CopySrc) (fuel : Nat)
    (hd : o.cfg.dereference = false) (hn : o.cfg.noClobber = false) (hg : o.cfg.gitignore = false)
    (hnt : o.cfg.noTargetDir = false) (hrec : o.cfg.recursive = true) (hglob : o.glob = false)
    (hpaths : (o.targetDir = none ∧ o.paths = items.map (·.path) ++ [dest]) ∨
      (o.targetDir = some dest ∧ o.paths = items.map (·.path)))
    (hne : items ≠ [])
    (hwf : FsEq fs fs)
    (hdest : PlainTarget fs dest) (hdd : ∃ es, fs.root.getAt dest.names = some (.dir es))
    (hfuel : fuel < walkFuel)
    (hsrc : ∀ e ∈ items, PlainTarget fs e.path ∧ e.path.fileName = some e.base ∧
      fs.root.getAt e.path.names = some e.node ∧ e.node.Copyable fuel ∧ e.path.names.length + walkFuel < 256)
    (hnd : (items.map (·.base)).Nodup)
    (hun : ∀ e ∈ items, ∀ e' ∈ items,
      ¬ e.path.names <+: dest.names ++ [e'.base] ∧ ¬ dest.names ++ [e'.base] <+: e.path.names)
    (hplain : ∀ e ∈ items, ∀ d, fs.root.getAt (dest.names ++ [e.base]) = some d → d.plainTree = true)
    (hlen : dest.names.length + 1 + walkFuel < 256)
    (hclash : ∃ e ∈ items, ¬ Compatible (fs.root.getAt (dest.names ++ [e.base])) e.node) :
    (L1run fs o texts).exit = .err := by
  have _ := hrec
  have _ := hne
  rcases whole_invocation_rejected_or_started fs o texts dest items hglob hpaths with ⟨_, hL⟩ | hL
  · rw [hL]
    exact several_sources_one_clash_exits_nonzero fs o.cfg texts dest items fuel hd hn hg hnt hwf hdest hdd hfuel hsrc hnd hun
      hplain hlen hclash
  · rw [hL]

/-- … and the destination need be plain only where the source maps onto it (`Node.plainWhereMapped`, decidable, same
recursion as `Compatible`): under names the source does not list it may hold anything — symbolic links, special files, whole
subtrees with links, as a destination populated by an earlier copy does.  Exit ok still implies the overlay; a clash still
fails.  This is as far as it goes: a link AT a mapped position is written through (F13), and the run exits 0 -/
theorem exit_zero_implies_the_overlay_links_elsewhere_allowed (fs : Fs) (c : Cfg) (hd : c.dereference = false) (hn : c.noClobber = false)
    (src tb : RPath) (srcNode : Node) (fuel : Nat)
    (hwf : FsEq fs fs) (hroot : fs.root.isDir = true)
    (hsrc : PlainTarget fs src) (hsn : fs.root.getAt src.names = some srcNode)
    (hcop : srcNode.Copyable fuel)
    (htb : PlainTarget fs tb) (hne : tb.names ≠ [])
    (hplain : ∀ d, fs.root.getAt tb.names = some d → d.plainWhereMapped srcNode = true)
    (hpar : ∃ es, fs.root.getAt tb.names.dropLast = some (.dir es))
    (hun1 : ¬ src.names <+: tb.names) (hun2 : ¬ tb.names <+: src.names)
    (hlen : src.names.length + fuel < 200 ∧ tb.names.length + fuel < 200)
    (fs' : Fs) (hok : execOps fs c (walkEntry fs c none src tb (fuel + 1) [] []) = ⟨.ok, fs'⟩) :
    FsEq fs' { fs with root := fs.root.setAt tb.names (Node.overlay (fs.root.getAt tb.names) srcNode) } := by
  exact ok_implies_overlaid (.of_hyps hwf hroot hsrc hsn hcop htb hne hpar hun1 hun2 hlen) c hd hn hplain fs' hok

/-- `plainWhereMapped` holds of a destination with a link and a FIFO under names the source does not list, which is not a
`plainTree`; a link at a mapped position is rejected -/
example : (Node.dir [([97], .file 1), ([108], .link ⟨false, [.name [120]], false⟩), ([100], .dir [([112], .special .fifo 0)])]).plainWhereMapped
      (.dir [([97], .file 2), ([100], .dir [([98], .file 3)])]) = true ∧
    (Node.dir [([97], .file 1), ([108], .link ⟨false, [.name [120]], false⟩)]).plainTree = false ∧
    (Node.dir [([97], .link ⟨false, [.name [120]], false⟩)]).plainWhereMapped (.dir [([97], .file 2)]) = false :=
  ⟨rfl, rfl, rfl⟩

end Xcp.C02