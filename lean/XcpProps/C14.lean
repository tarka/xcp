import XcpModel.Node
import XcpProofs.NodeLemmas
/-! # C14 — FIFOs, sockets and character devices are recreated as identical nodes

Model slice: `classifyKind` (the walker's dispatch), `specialProgram` (`Operation::Special` in both
drivers: exists? → no-clobber error | remove_file → `copy_node`) and `mknodResult` (`mknodat` with the
source's type, permission bits and `st_rdev`, limited by the umask).  The call vocabulary of a special
operation contains no `open`/`read` of the source: it is never opened.  -/
namespace Xcp.C14

open Xcp

/-- Exactly sockets, character devices and FIFOs are recreated; block devices and unknown kinds are errors. -/
theorem classify_spec (k : FileKind) :
    (classifyKind k = .special ↔ k = .socket ∨ k = .chr ∨ k = .fifo) ∧
    (classifyKind k = .unsupported ↔ k = .blk ∨ k = .other) := by
  cases k <;> simp [classifyKind]

/-- The node created has the source's type and device number, and the source's permission bits as limited by
the process's file-creation mask. -/
theorem node_identical (src : NodeSpec) (umask : Nat) (nc ex rm : Bool) (n : NodeSpec)
    (h : (specialProgram src umask nc ex rm).2 = some n) :
    n.kind = src.kind ∧ n.rdev = src.rdev ∧ n.mode = src.mode &&& (0o7777 ^^^ (umask &&& 0o7777)) ∧
    (src.kind = .socket ∨ src.kind = .chr ∨ src.kind = .fifo) := by
  by_cases hk : classifyKind src.kind = .special
  · have hn : n = mknodResult src umask := by
      rw [specialProgram_special hk] at h
      cases ex
      · exact (Option.some.inj h).symm
      · cases nc
        · cases rm
          · cases h
          · exact (Option.some.inj h).symm
        · cases h
    subst hn
    exact ⟨rfl, rfl, rfl, (classify_spec _).1.1 hk⟩
  · rw [specialProgram_other hk] at h
    cases h

/-- An existing destination entry is replaced (unlink, then mknod) unless no-clobber is set, in which case
nothing is modified and the run fails. -/
theorem replace_unless_noclobber (src : NodeSpec) (umask : Nat) (rm : Bool)
    (hk : classifyKind src.kind = .special) :
    (specialProgram src umask true true rm = ([.probeDest], none)) ∧
    (specialProgram src umask false true true =
      ([.probeDest, .unlink, .mknod (mknodResult src umask)], some (mknodResult src umask))) :=
  ⟨specialProgram_special hk .., specialProgram_special hk ..⟩

/-- Block devices and unknown kinds make the run fail and issue no call at all. -/
theorem block_and_unknown_fail (src : NodeSpec) (umask : Nat) (nc ex rm : Bool)
    (hk : src.kind = .blk ∨ src.kind = .other) : specialProgram src umask nc ex rm = ([], none) := by
  refine specialProgram_other ?_ ..
  rcases hk with hk | hk <;> rw [hk] <;> decide

/-- Full characterisation of success for one special-file entry. -/
theorem succeeds_iff (src : NodeSpec) (umask : Nat) (nc ex rm : Bool) :
    (specialProgram src umask nc ex rm).2.isSome = true ↔
      classifyKind src.kind = .special ∧ (ex = false ∨ (nc = false ∧ rm = true)) := by
  by_cases hk : classifyKind src.kind = .special
  · rw [specialProgram_special hk]
    cases ex
    · simp [hk]
    · cases nc
      · cases rm <;> simp [hk]
      · simp [hk]
  · rw [specialProgram_other hk]
    simp [hk]

/-- A fresh destination: one probe, one `mknod`, no `unlink`. -/
theorem fresh_destination_created (src : NodeSpec) (umask : Nat) (nc rm : Bool)
    (hk : classifyKind src.kind = .special) :
    specialProgram src umask nc false rm =
      ([.probeDest, .mknod (mknodResult src umask)], some (mknodResult src umask)) :=
  specialProgram_special hk ..

/-- An existing destination that cannot be unlinked (a directory): the run fails and no node is created. -/
theorem unremovable_destination_fails (src : NodeSpec) (umask : Nat)
    (hk : classifyKind src.kind = .special) :
    specialProgram src umask false true false = ([.probeDest, .unlink], none) :=
  specialProgram_special hk ..

/-- A `mknod` is issued exactly on the successful paths, with exactly the node reported, and `unlink` is
never issued under no-clobber or for a fresh destination. -/
theorem mknod_iff_success (src : NodeSpec) (umask : Nat) (nc ex rm : Bool) (n : NodeSpec) :
    (NodeCall.mknod n ∈ (specialProgram src umask nc ex rm).1 ↔ (specialProgram src umask nc ex rm).2 = some n) ∧
    ((nc = true ∨ ex = false) → NodeCall.unlink ∉ (specialProgram src umask nc ex rm).1) := by
  by_cases hk : classifyKind src.kind = .special
  · rw [specialProgram_special hk]
    cases ex
    · simp [eq_comm]
    · cases nc
      · cases rm <;> simp [eq_comm]
      · simp
  · rw [specialProgram_other hk]
    simp

/-- Every bit of the file-creation mask is cleared in the created node's mode … -/
theorem umask_bits_cleared (src : NodeSpec) (umask : Nat) :
    (mknodResult src umask).mode &&& (umask &&& 0o7777) = 0 := by
  apply Nat.eq_of_testBit_eq
  intro i
  simp only [mknodResult, Nat.testBit_and, Nat.testBit_xor, Nat.zero_testBit]
  cases src.mode.testBit i <;> cases umask.testBit i <;> cases (0o7777 : Nat).testBit i <;> rfl

/-- … and no bit is set that the source does not have. -/
theorem mode_bits_from_source (src : NodeSpec) (umask : Nat) :
    (mknodResult src umask).mode &&& src.mode = (mknodResult src umask).mode := by
  apply Nat.eq_of_testBit_eq
  intro i
  simp only [mknodResult, Nat.testBit_and]
  cases src.mode.testBit i <;> simp

/-- With an empty mask a 12-bit mode is copied exactly. -/
theorem umask_zero_exact (src : NodeSpec) (h : src.mode < 4096) : (mknodResult src 0).mode = src.mode := by
  simp only [mknodResult, Nat.zero_and, Nat.xor_zero]
  have : (0o7777 : Nat) = 2^12 - 1 := by decide
  rw [this, Nat.and_two_pow_sub_one_eq_mod]
  exact Nat.mod_eq_of_lt h

/-- With umask 0 the permission bits are copied exactly; with 022 group/other write are dropped. -/
example : (mknodResult ⟨.chr, 0o666, 259⟩ 0).mode = 0o666 ∧ (mknodResult ⟨.chr, 0o666, 259⟩ 0o022).mode = 0o644 ∧
    (mknodResult ⟨.chr, 0o666, 259⟩ 0o022).rdev = 259 := by decide

end Xcp.C14
