import XcpProofs.BackupLemmas
/-! # C09 — numbered backups never lose a version, for any name, history or kill point

Model slice: `isNumBackup` / `nextBackupNum` / `backupName` / `needsBackup` (libxcp/src/backup.rs after the
`fix:` commit: byte-wise exact `<name>.~N~`, `checked_add`), and the `rename; create; fill` prefix of
`CopyHandle::new`, on a directory modelled as a finite map from raw byte names to contents.
Names are arbitrary byte lists (non-UTF-8 included); histories and number sets are unbounded.  -/
namespace Xcp.C09

open Xcp

/-- The recogniser accepts exactly `<base>.~N~` with N a non-empty string of ASCII digits that fits in 64
bits — for every byte string, UTF-8 or not; in particular `ab.~7~` is not a backup of `a`. -/
theorem recogniser_exact (base cand : Name) (n : Nat) :
    isNumBackup base cand = some n ↔
      ∃ ds : List UInt8, ds ≠ [] ∧ ds.all isDigit = true ∧ cand = base ++ [46, 126] ++ ds ++ [126] ∧
        digitsVal ds = n ∧ n < 2^64 :=
  isNumBackup_iff base cand n

/-- The name xcp generates is recognised with its own number (so the next overwrite sees it). -/
theorem generated_name_recognised (base : Name) (n : Nat) (h : n < 2^64) :
    isNumBackup base (backupName base n) = some n :=
  isNumBackup_backupName base n h

/-- N is greater than every backup number already present for that name, and the name is fresh. -/
theorem number_exceeds_all_and_is_fresh (dir : List Name) (base : Name) (N : Nat) (h : nextBackupNum dir base = some N) :
    (∀ c ∈ dir, ∀ m, isNumBackup base c = some m → m < N) ∧ backupName base N ∉ dir :=
  ⟨nextBackupNum_greater dir base N h, nextBackupNum_fresh dir base N h⟩

/-- One overwrite under `numbered`: the old content is preserved intact as `<name>.~N~`, that name was
absent before, N exceeds every recognised number, and every other entry is untouched. -/
theorem overwrite_preserves_old (d : Dir) (name old new : List UInt8) (N : Nat)
    (hold : d.get name = some old) (hN : nextBackupNum d.names name = some N) :
    (copyOnce d (.numbered, name, new)).get name = some new ∧
    (copyOnce d (.numbered, name, new)).get (backupName name N) = some old ∧
    d.get (backupName name N) = none ∧
    (∀ c ∈ d.names, ∀ m, isNumBackup name c = some m → m < N) ∧
    (∀ k, k ≠ name → k ≠ backupName name N → (copyOnce d (.numbered, name, new)).get k = d.get k) :=
  copyOnce_numbered_keeps_old d name old new N hold hN

/-- No existing backup is ever modified or replaced by a copy, in any mode. -/
theorem existing_backups_untouched (d : Dir) (mode : BackupMode) (name new : List UInt8) (m : Nat) (v : List UInt8)
    (hk : d.get (backupName name m) = some v) :
    (copyOnce d (mode, name, new)).get (backupName name m) = some v :=
  copyOnce_preserves_others d _ _ v hk (backupName_ne name m)

/-- `auto` takes a backup exactly when one already exists for that name. -/
theorem auto_iff_backup_exists (d : Dir) (name old new : List UInt8) (N : Nat)
    (hold : d.get name = some old) (hN : nextBackupNum d.names name = some N) :
    ((copyOnce d (.auto, name, new)).get (backupName name N) = some old ↔ hasBackup d.names name = true) ∧
    (copyOnce d (.auto, name, new)).get name = some new ∧
    (hasBackup d.names name = false → ∀ k, k ≠ name → (copyOnce d (.auto, name, new)).get k = d.get k) := by
  cases hh : hasBackup d.names name with
  | true =>
    have hb : needsBackup .auto (d.get name).isSome d.names name = true := by simp [needsBackup, hold, hh]
    refine ⟨?_, ?_, ?_⟩
    · rw [copyOnce_backup_get new hb hN hold]; simp [backupName_ne]
    · rw [copyOnce_backup_get new hb hN hold]; simp
    · intro h; cases h
  | false =>
    have hb : needsBackup .auto (d.get name).isSome d.names name = false := by simp [needsBackup, hh]
    refine ⟨?_, ?_, ?_⟩
    · rw [copyOnce_nobackup_get new hb]; simp [backupName_ne, backup_target_absent hN]
    · rw [copyOnce_nobackup_get new hb]; simp
    · intro _ k hk; rw [copyOnce_nobackup_get new hb]; simp [hk]

/-- Any history of copies with any modes: entries never targeted survive; and each version overwritten under
`numbered` is still present, intact, under the backup name chosen at that moment, after the whole history
(as long as no later invocation names that backup file itself as its destination). -/
theorem history_never_loses_a_version (d : Dir) (h : List (BackupMode × Name × List UInt8)) :
    (∀ k v, d.get k = some v → (∀ op ∈ h, op.2.1 ≠ k) → (runHistory d h).get k = some v) ∧
    (∀ pre rest name new c N, h = pre ++ (BackupMode.numbered, name, new) :: rest →
      (runHistory d pre).get name = some c →
      nextBackupNum (runHistory d pre).names name = some N →
      (∀ op ∈ rest, op.2.1 ≠ backupName name N) →
      (runHistory d pre).get (backupName name N) = none ∧
      (runHistory d h).get (backupName name N) = some c ∧
      (∀ k ∈ (runHistory d pre).names, ∀ m, isNumBackup name k = some m → m < N)) := by
  refine ⟨fun k v hk hne => runHistory_preserves_untargeted h d k v hk hne, ?_⟩
  rintro pre rest name new c N rfl hc hN hrest
  obtain ⟨h1, h2⟩ := runHistory_version_kept pre rest d .numbered name new c N hc rfl hN hrest
  exact ⟨h1, h2, nextBackupNum_greater _ name N hN⟩

/-- Kill safety: at EVERY prefix of the steps of an overwrite (a SIGKILL between any two calls), when a
backup is due the old content exists under the original name or under the backup name; other entries are
never touched. -/
theorem kill_point_safe (d : Dir) (mode : BackupMode) (name old new : List UInt8) (l : List BStep)
    (hold : d.get name = some old) (hl : copySteps d mode name new = some l) (i : Nat) :
    (needsBackup mode true d.names name = true →
      ∃ N, nextBackupNum d.names name = some N ∧ d.get (backupName name N) = none ∧
        ((runSteps d (l.take i)).get name = some old ∨
         (runSteps d (l.take i)).get (backupName name N) = some old)) ∧
    (∀ k v, k ≠ name → d.get k = some v → (runSteps d (l.take i)).get k = some v) := by
  cases hb : needsBackup mode (d.get name).isSome d.names name with
  | false =>
    rw [copySteps_nobackup new hb] at hl
    cases hl
    refine ⟨?_, ?_⟩
    · intro h; simp [hold, h] at hb
    · intro k v hk hv; rw [runSteps_nobackup_take d name new i k hk]; exact hv
  | true =>
    cases hN : nextBackupNum d.names name with
    | none => rw [copySteps_refused new hb hN] at hl; cases hl
    | some N =>
      rw [copySteps_backup new hb hN] at hl
      cases hl
      obtain ⟨h1, h2⟩ := runSteps_backup_take d name (backupName name N) old new hold (backupName_ne name N) i
      refine ⟨fun _ => ⟨N, rfl, backup_target_absent hN, h1⟩, ?_⟩
      intro k v hk hv
      have hkb : k ≠ backupName name N := by
        intro e; rw [e, backup_target_absent hN] at hv; cases hv
      rw [h2 k hk hkb]; exact hv

/-- Exact delta of the set of backups under `numbered`: after the overwrite a backup `<name>.~m~` exists iff
`m = N` or it existed before — exactly one backup appears, none disappears, and every one that existed keeps
its content. -/
theorem overwrite_adds_exactly_one_backup (d : Dir) (name old new : List UInt8) (N : Nat)
    (hold : d.get name = some old) (hN : nextBackupNum d.names name = some N) (m : Nat) (v : List UInt8) :
    (copyOnce d (.numbered, name, new)).get (backupName name m) = some v ↔
      (m = N ∧ v = old) ∨ (m ≠ N ∧ d.get (backupName name m) = some v) := by
  obtain ⟨_, h2, _, _, h5⟩ := copyOnce_numbered_keeps_old d name old new N hold hN
  by_cases hm : m = N
  · subst hm; rw [h2]; constructor
    · intro h; exact Or.inl ⟨rfl, (Option.some.inj h).symm⟩
    · rintro (⟨_, rfl⟩ | ⟨h, _⟩)
      · rfl
      · exact absurd rfl h
  · rw [h5 _ (backupName_ne name m) (fun h => hm (backupName_inj name m N h))]
    constructor
    · intro h; exact Or.inr ⟨hm, h⟩
    · rintro (⟨h, _⟩ | ⟨_, h⟩)
      · exact absurd h hm
      · exact h

/-- Consecutive numbering: after a numbered overwrite took backup N, the next overwrite of that name will take
N+1 (so a history of k numbered overwrites of one name leaves exactly k new backups, numbered consecutively
after the largest one present at the start). -/
theorem next_number_is_consecutive (d : Dir) (name old new : List UInt8) (N : Nat)
    (hold : d.get name = some old) (hN : nextBackupNum d.names name = some N) (hlt : N + 1 < 2^64) :
    nextBackupNum (copyOnce d (.numbered, name, new)).names name = some (N + 1) := by
  obtain ⟨_, h2, _, h4, h5⟩ := copyOnce_numbered_keeps_old d name old new N hold hN
  have hN64 := (nextBackupNum_eq_some _ _ _ hN).2
  have hmax : maxList (backupNums (copyOnce d (.numbered, name, new)).names name) = N := by
    apply Nat.le_antisymm
    · refine (maxList_le_iff _ _).2 (fun m hm => ?_)
      obtain ⟨c, hc, hcm⟩ := List.mem_filterMap.1 hm
      by_cases e1 : c = name
      · subst e1; rw [isNumBackup_self] at hcm; cases hcm
      by_cases e2 : c = backupName name N
      · subst e2; rw [isNumBackup_backupName name N hN64] at hcm; cases hcm; exact Nat.le_refl _
      obtain ⟨v, hv⟩ := (Dir.mem_names_iff _ c).1 hc
      rw [h5 c e1 e2] at hv
      exact Nat.le_of_lt (h4 c ((Dir.mem_names_iff d c).2 ⟨v, hv⟩) m hcm)
    · refine (maxList_le_iff _ _).1 (Nat.le_refl _) N ?_
      exact List.mem_filterMap.2 ⟨backupName name N, (Dir.mem_names_iff _ _).2 ⟨old, h2⟩,
        isNumBackup_backupName name N hN64⟩
  unfold nextBackupNum
  simp only [hmax, hlt, if_true]

/-- Mode `none` never takes a backup: only the target changes, whatever backups exist. -/
theorem none_mode_touches_only_target (d : Dir) (name new : List UInt8) (k : Name) :
    (copyOnce d (.none, name, new)).get k = if k = name then some new else d.get k :=
  copyOnce_nobackup_get new (by simp [needsBackup]) k

/-- When the next number would not fit in 64 bits (`checked_add` fails) and a backup is due, the copy is
refused and the directory is left exactly as it was — the old content is not overwritten without a backup. -/
theorem overflow_refuses_and_changes_nothing (d : Dir) (mode : BackupMode) (name new : List UInt8)
    (hb : needsBackup mode (d.get name).isSome d.names name = true) (hN : nextBackupNum d.names name = none) :
    copyOnce d (mode, name, new) = d :=
  copyOnce_refused new hb hN

/-- Non-vacuity of the overflow case: a backup numbered 2^64-1 exists. -/
example : nextBackupNum [[97], backupName [97] (2^64 - 1)] [97] = none := by decide

/-- Non-vacuity and a non-UTF-8 name (0xFF 0xFE): three numbered overwrites keep v0, v1, v2. -/
example :
    let nm : Name := [0xFF, 0xFE]
    let d := runHistory [(nm, [0])] [(.numbered, nm, [1]), (.numbered, nm, [2]), (.numbered, nm, [3])]
    d.get nm = some [3] ∧ d.get (backupName nm 1) = some [0] ∧ d.get (backupName nm 2) = some [1] ∧
      d.get (backupName nm 3) = some [2] := by decide

/-- The defect repaired by the `fix:` commit on backup.rs (a prefix test where an exact match is meant) is absent
from the recogniser: -/
example : isNumBackup [97] ([97, 98] ++ [46, 126, 55, 126]) = none := by decide   -- `ab.~7~` is not a backup of `a`

end Xcp.C09
